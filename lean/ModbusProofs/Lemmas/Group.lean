import Modbus.Model.Builder
import Mathlib.Tactic.SplitIfs
/-
  Grouping of fields into slots and groups (splitter.go: groupForSingleConnection, AddField).
  `addToSlots` and `addToGroups` are the same operation on a list keyed by address resp. by (server, unit, kind):
  `upsert`. What grouping preserves is proved once, for `upsert`.
-/
namespace Modbus.Lemmas
open Modbus.Model

section upsert
variable {α : Type} (p : α → Prop) [DecidablePred p] (upd : α → α) (new : α)

/-- `AddField` of splitter.go, for slots and for groups alike: the first element that satisfies `p` is replaced by
`upd` of it; if there is none, `new` is appended -/
def upsert : List α → List α
  | [] => [new]
  | a :: l => if p a then upd a :: l else a :: upsert l

variable {p upd new}

theorem upsert_ne_nil (l : List α) : upsert p upd new l ≠ [] := by
  cases l with
  | nil => simp [upsert]
  | cons a l => unfold upsert; split_ifs <;> simp

theorem forall_mem_upsert {P : α → Prop} {l : List α} (h : ∀ a ∈ l, P a) (hupd : ∀ a, P a → p a → P (upd a))
    (hnew : P new) : ∀ a ∈ upsert p upd new l, P a := by
  induction l with
  | nil => simpa [upsert] using hnew
  | cons a l ih =>
    obtain ⟨ha, hl⟩ := List.forall_mem_cons.1 h
    unfold upsert
    split_ifs with hp
    · exact List.forall_mem_cons.2 ⟨hupd a ha hp, hl⟩
    · exact List.forall_mem_cons.2 ⟨ha, ih hl⟩

theorem upsert_nodup {κ : Type} {key : α → κ} {k : κ} (hp : ∀ a, p a ↔ key a = k) (hupd : ∀ a, key (upd a) = key a)
    (hnew : key new = k) {l : List α} (h : (l.map key).Nodup) : ((upsert p upd new l).map key).Nodup := by
  induction l with
  | nil => simp [upsert]
  | cons a l ih =>
    obtain ⟨ha, hl⟩ := List.nodup_cons.1 h
    unfold upsert
    split_ifs with hpa
    · rwa [List.map_cons, hupd]
    · refine List.nodup_cons.2 ⟨fun hmem => ?_, ih hl⟩
      -- every key behind `a` is an old one or `k`, and `key a` is neither
      obtain ⟨b, hb, hba⟩ := List.mem_map.1 hmem
      rcases forall_mem_upsert (P := fun b => key b ∈ l.map key ∨ key b = k) (fun b hb => .inl (List.mem_map_of_mem hb))
        (fun b hb _ => by rwa [hupd]) (.inr hnew) b hb with h' | h'
      · exact ha (hba ▸ h')
      · exact hpa ((hp a).2 (hba ▸ h'))

theorem upsert_flatMap_perm {β : Type} {fs : α → List β} {x : β} (hupd : ∀ a, p a → (fs (upd a)).Perm (fs a ++ [x]))
    (hnew : fs new = [x]) (l : List α) : ((upsert p upd new l).flatMap fs).Perm (l.flatMap fs ++ [x]) := by
  induction l with
  | nil => simp [upsert, hnew]
  | cons a l ih =>
    unfold upsert
    split_ifs with hp
    · refine ((hupd a hp).append_right _).trans ?_
      rw [List.flatMap_cons, List.append_assoc, List.append_assoc]
      exact List.perm_append_comm.append_left _
    · rw [List.flatMap_cons, List.flatMap_cons, List.append_assoc]
      exact ih.append_left _

end upsert

/-- a slot: non-empty, all its fields at its address, its size the largest field size -/
structure SlotOK (s : Slot) : Prop where
  ne : s.fields ≠ []
  at_ : ∀ f ∈ s.fields, f.addr = s.addr ∧ f.size ≤ s.size
  att : ∃ f ∈ s.fields, f.size = s.size

def SlotsOK (ss : List Slot) : Prop := (∀ s ∈ ss, SlotOK s) ∧ (ss.map (·.addr)).Nodup

def mergeSlot (s : Slot) (f : Field) : Slot :=
  { s with fields := s.fields ++ [f], size := if f.size > s.size then f.size else s.size }

theorem addToSlots_eq (ss : List Slot) (f : Field) :
    addToSlots ss f = upsert (·.addr = f.addr) (mergeSlot · f) ⟨f.addr, f.size, [f]⟩ ss := by
  induction ss with
  | nil => rfl
  | cons s rest ih => simp only [addToSlots, upsert, ih]; rfl

theorem mergeSlot_ok {s : Slot} {f : Field} (hs : SlotOK s) (he : s.addr = f.addr) : SlotOK (mergeSlot s f) := by
  obtain ⟨g, hg, hge⟩ := hs.att
  refine ⟨by simp [mergeSlot], List.forall_mem_append.2 ⟨fun x hx => ⟨(hs.at_ x hx).1, ?_⟩, ?_⟩, ?_⟩
  · have := (hs.at_ x hx).2; simp only [mergeSlot]; split_ifs <;> omega
  · simp only [mergeSlot, List.forall_mem_singleton, he, true_and]; split_ifs <;> omega
  · simp only [mergeSlot]
    split_ifs
    · exact ⟨f, by simp, rfl⟩
    · exact ⟨g, List.mem_append_left _ hg, hge⟩

theorem addToSlots_ok {ss : List Slot} (f : Field) (h : SlotsOK ss) : SlotsOK (addToSlots ss f) := by
  rw [addToSlots_eq]
  exact ⟨forall_mem_upsert h.1 (fun _ hs he => mergeSlot_ok hs he) ⟨by simp, by simp, f, by simp, rfl⟩,
    upsert_nodup (fun _ => Iff.rfl) (fun _ => by rfl) (by rfl) h.2⟩

theorem addToSlots_fields {Q : Field → Prop} {ss : List Slot} {f : Field} (h : ∀ s ∈ ss, ∀ x ∈ s.fields, Q x) (hf : Q f) :
    ∀ s ∈ addToSlots ss f, ∀ x ∈ s.fields, Q x := by
  rw [addToSlots_eq]
  exact forall_mem_upsert h (fun s hs _ => List.forall_mem_append.2 ⟨hs, by simpa using hf⟩) (by simpa using hf)

theorem addToSlots_perm (ss : List Slot) (f : Field) :
    ((addToSlots ss f).flatMap (·.fields)).Perm (ss.flatMap (·.fields) ++ [f]) := by
  rw [addToSlots_eq]
  exact upsert_flatMap_perm (fun _ _ => by rfl) (by rfl) ss

def gkey (g : Group) : String × UInt8 × Bool := (g.server, g.unit, g.isCoil)
def fkey (f : Field) : String × UInt8 × Bool := (f.server, f.unit, f.isCoil)

structure GroupOK (g : Group) : Prop where
  slots : SlotsOK g.slots
  ne : g.slots ≠ []
  mem : ∀ s ∈ g.slots, ∀ f ∈ s.fields, (fkey f) = (gkey g)
  valid : ∀ s ∈ g.slots, ∀ f ∈ s.fields, f.valid = true

def GroupsOK (gs : List Group) : Prop := (∀ g ∈ gs, GroupOK g) ∧ (gs.map gkey).Nodup

def allFields (gs : List Group) : List Field := gs.flatMap fun g => g.slots.flatMap (·.fields)

theorem addToGroups_eq (gs : List Group) (f : Field) :
    addToGroups gs f = upsert (fun g => g.server = f.server ∧ g.unit = f.unit ∧ g.isCoil = f.isCoil)
      (fun g => { g with slots := addToSlots g.slots f }) ⟨f.server, f.unit, f.isCoil, addToSlots [] f⟩ gs := by
  induction gs with
  | nil => rfl
  | cons g rest ih => simp only [addToGroups, upsert, ih]

/-- `ss`: the slots so far, `g.slots` for a group that exists and none for a new one -/
theorem GroupOK.add {g : Group} {ss : List Slot} {f : Field} (hs : SlotsOK ss)
    (hmem : ∀ s ∈ ss, ∀ x ∈ s.fields, fkey x = gkey g) (hval : ∀ s ∈ ss, ∀ x ∈ s.fields, x.valid = true)
    (hk : fkey f = gkey g) (hv : f.valid = true) : GroupOK { g with slots := addToSlots ss f } :=
  ⟨addToSlots_ok f hs, by rw [addToSlots_eq]; exact upsert_ne_nil _, addToSlots_fields hmem hk,
    addToSlots_fields hval hv⟩

theorem addToGroups_ok {gs : List Group} {f : Field} {c : Bool} (h : GroupsOK gs) (hc : ∀ g ∈ gs, g.isCoil = c)
    (hv : f.valid = true) (hf : f.isCoil = c) :
    GroupsOK (addToGroups gs f) ∧ ∀ g ∈ addToGroups gs f, g.isCoil = c := by
  have hkey : ∀ g : Group, (g.server = f.server ∧ g.unit = f.unit ∧ g.isCoil = f.isCoil) ↔ gkey g = fkey f := by
    simp [gkey, fkey]
  rw [addToGroups_eq]
  refine ⟨⟨forall_mem_upsert h.1 (fun g hg hk => ?_) ?_, upsert_nodup hkey (fun _ => by rfl) (by rfl) h.2⟩,
    forall_mem_upsert hc (fun _ h _ => h) hf⟩
  · exact GroupOK.add hg.slots hg.mem hg.valid ((hkey g).1 hk).symm hv
  · exact GroupOK.add (g := ⟨f.server, f.unit, f.isCoil, []⟩) ⟨by simp, by simp⟩ (by simp) (by simp) rfl hv

theorem addToGroups_perm (gs : List Group) (f : Field) : (allFields (addToGroups gs f)).Perm (allFields gs ++ [f]) := by
  rw [addToGroups_eq]
  exact upsert_flatMap_perm (fun g _ => by exact addToSlots_perm g.slots f) (by simp [addToSlots]) gs

/-- `groupForSingleConnection` -/
theorem groupFields_go {fields : List Field} {c : Bool} {gs gs' : List Group} (hok : GroupsOK gs)
    (hc : ∀ g ∈ gs, g.isCoil = c) (h : groupFields.go c fields gs = .ok gs') :
    GroupsOK gs' ∧ (∀ g ∈ gs', g.isCoil = c) ∧
      (allFields gs').Perm (allFields gs ++ fields.filter (fun f => f.isCoil == c)) ∧
      (∀ f ∈ fields, f.valid = true) := by
  induction fields generalizing gs with
  | nil => cases h; exact ⟨hok, hc, by simp, by simp⟩
  | cons f rest ih =>
    unfold groupFields.go at h
    split_ifs at h with hv hk
    · simp only [Bool.not_eq_true', Bool.not_eq_false] at hv
      obtain ⟨h1, h2, h3, h4⟩ := ih hok hc h
      exact ⟨h1, h2, by simpa [List.filter_cons, show (f.isCoil == c) = false by simpa using hk] using h3,
        List.forall_mem_cons.2 ⟨hv, h4⟩⟩
    · simp only [Bool.not_eq_true', Bool.not_eq_false] at hv
      have hfc : f.isCoil = c := by simpa using hk
      obtain ⟨hok', hc'⟩ := addToGroups_ok hok hc hv hfc
      obtain ⟨h1, h2, h3, h4⟩ := ih hok' hc' h
      refine ⟨h1, h2, ?_, List.forall_mem_cons.2 ⟨hv, h4⟩⟩
      simp only [List.filter_cons, show (f.isCoil == c) = true by simpa using hfc, if_true]
      exact h3.trans (((addToGroups_perm gs f).append_right _).trans (by simp))

theorem groupFields_ok {fields : List Field} {c : Bool} {gs : List Group} (h : groupFields fields c = .ok gs) :
    GroupsOK gs ∧ (∀ g ∈ gs, g.isCoil = c) ∧ (allFields gs).Perm (fields.filter fun f => f.isCoil == c) ∧
      ∀ f ∈ fields, f.valid = true := by
  simpa [allFields] using groupFields_go (gs := []) ⟨by simp, by simp⟩ (by simp) h

end Modbus.Lemmas
