import Lean.Meta.Tactic.Simp.RegisterCommand

/-- what `AcceptedTCP`, `AcceptedRTU` say of a request value, as equations and range conditions on the bytes of the frame
(the definitions with `FieldsOf`, and the lemmas that bring `getD` on a dropped list back to the frame); used as
`simp only [fields, Nat.reduceAdd]`, the simproc for the offsets `7 + 1` that `getD_drop` leaves -/
register_simp_attr fields
