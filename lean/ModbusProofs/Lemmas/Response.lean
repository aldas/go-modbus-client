import ModbusProofs.Lemmas.Crc
/-
  Contracts of the response parsers, the exception recognisers and the stream classifier (`Model/Response.lean`).
  Of a response parser only "no panic, same result whatever the spare capacity holds, never `ErrInvalidCRC`" is
  asked; what it returns on an encoded response is in `RespRoundTrip.lean`.
-/
namespace Modbus.Lemmas
open Modbus.Model

/-- no claim about values, and an error is anything but `ErrInvalidCRC` -/
abbrev Plain {α : Type} (x y : PRes α) : Prop := Run (fun _ => True) (· ≠ .badCRC) x y

theorem run_asTCPErrorPacket (v sp sp' : Bytes) : Plain (asTCPErrorPacket ⟨v, sp⟩) (asTCPErrorPacket ⟨v, sp'⟩) := by
  unfold asTCPErrorPacket; dsimp only; run_walk <;> trivial

theorem run_asRTUErrorPacket (v sp sp' : Bytes) : Plain (asRTUErrorPacket ⟨v, sp⟩) (asRTUErrorPacket ⟨v, sp'⟩) := by
  unfold asRTUErrorPacket; dsimp only; run_walk <;> trivial

theorem run_looksLike (allow : Bool) (v sp sp' : Bytes) :
    Run (fun _ => True) (fun _ => True) (looksLike ⟨v, sp⟩ allow) (looksLike ⟨v, sp'⟩ allow) := by
  unfold looksLike; dsimp only; run_walk <;> trivial

/-- `hn`: the minimum length must make the byte-count field (index 8, RTU index 2) readable -/
theorem run_parseByteCountRespTCP (mk : UInt8 → UInt8 → Bytes → Resp) (n : Nat) (hn : 9 ≤ n) (v sp sp' : Bytes) :
    Plain (parseByteCountRespTCP mk n ⟨v, sp⟩) (parseByteCountRespTCP mk n ⟨v, sp'⟩) := by
  unfold parseByteCountRespTCP; dsimp only; run_walk <;> trivial

theorem run_parseByteCountRespRTU (mk : UInt8 → UInt8 → Bytes → Resp) (n : Nat) (hn : 5 ≤ n) (v sp sp' : Bytes) :
    Plain (parseByteCountRespRTU mk n ⟨v, sp⟩) (parseByteCountRespRTU mk n ⟨v, sp'⟩) := by
  unfold parseByteCountRespRTU; dsimp only; run_walk <;> trivial

/-! The three decoders of the fixed-size responses read four bytes at `off`: in bounds they succeed, with a value that
does not depend on the spare capacity. -/

theorem mkWCoilResp_eq (off : Nat) (u : UInt8) (v sp : Bytes) (h : off + 4 ≤ v.length) :
    mkWCoilResp off u ⟨v, sp⟩ = .ok (.wcoil u (be16 (v.getD off 0) (v.getD (off + 1) 0))
      (be16 (v.getD (off + 2) 0) (v.getD (off + 2 + 1) 0) == 0xFF00)) := by
  unfold mkWCoilResp
  rw [rd16_eq v sp off (by omega), Res.bind_ok, rd16_eq v sp (off + 2) (by omega), Res.bind_ok]

theorem mkWRegResp_eq (off : Nat) (u : UInt8) (v sp : Bytes) (h : off + 4 ≤ v.length) :
    mkWRegResp off u ⟨v, sp⟩ = .ok (.wreg u (be16 (v.getD off 0) (v.getD (off + 1) 0))
      (v.getD (off + 2) 0) (v.getD (off + 3) 0)) := by
  unfold mkWRegResp
  rw [rd16_eq v sp off (by omega), Res.bind_ok, idx_eq v sp (off + 2) (by omega), Res.bind_ok,
    idx_eq v sp (off + 3) (by omega), Res.bind_ok]

theorem mkWMultiResp_eq (fc : UInt8) (off : Nat) (u : UInt8) (v sp : Bytes) (h : off + 4 ≤ v.length) :
    mkWMultiResp fc off u ⟨v, sp⟩ = .ok (.wmulti fc u (be16 (v.getD off 0) (v.getD (off + 1) 0))
      (be16 (v.getD (off + 2) 0) (v.getD (off + 2 + 1) 0))) := by
  unfold mkWMultiResp
  rw [rd16_eq v sp off (by omega), Res.bind_ok, rd16_eq v sp (off + 2) (by omega), Res.bind_ok]

/-- `hmk`: where the parser calls it, the decoder succeeds, with the same value on both slices -/
theorem run_parseFixedRespTCP {mk : UInt8 → Slice → PRes Resp} (v sp sp' : Bytes)
    (hmk : ∀ u, 12 ≤ v.length → ∃ r, ∀ sp, mk u ⟨v, sp⟩ = .ok r) :
    Plain (parseFixedRespTCP mk ⟨v, sp⟩) (parseFixedRespTCP mk ⟨v, sp'⟩) := by
  unfold parseFixedRespTCP; dsimp only; run_walk
  rotate_right
  · obtain ⟨r, hr⟩ := hmk _ (by omega)
    rw [hr, hr]; exact .ret trivial
  all_goals trivial

theorem run_parseFixedRespRTU {mk : UInt8 → Slice → PRes Resp} (v sp sp' : Bytes)
    (hmk : ∀ u, v.length = 8 → ∃ r, ∀ sp, mk u ⟨v, sp⟩ = .ok r) :
    Plain (parseFixedRespRTU mk ⟨v, sp⟩) (parseFixedRespRTU mk ⟨v, sp'⟩) := by
  unfold parseFixedRespRTU; dsimp only; run_walk
  rotate_right
  · obtain ⟨r, hr⟩ := hmk _ (by omega)
    rw [hr, hr]; exact .ret trivial
  all_goals trivial

theorem run_parseSidRespTCP (v sp sp' : Bytes) : Plain (parseSidRespTCP ⟨v, sp⟩) (parseSidRespTCP ⟨v, sp'⟩) := by
  unfold parseSidRespTCP; dsimp only; run_walk
  -- the walk stops at the optional additional data (an `if` inside the first argument of a bind): the last goal.
  -- It is taken first because `trivial` is slow to fail on it.
  rotate_right
  · refine .bind (P := fun _ => True) ?_ fun _ _ => ?_ <;> run_walk <;> trivial
  all_goals trivial

theorem run_parseSidRespRTU (v sp sp' : Bytes) : Plain (parseSidRespRTU ⟨v, sp⟩) (parseSidRespRTU ⟨v, sp'⟩) := by
  unfold parseSidRespRTU; dsimp only; run_walk
  rotate_right
  · refine .bind (P := fun _ => True) ?_ fun _ _ => ?_ <;> run_walk <;> trivial
  all_goals trivial

theorem run_parseRespTCPfc (fc : UInt8) (v sp sp' : Bytes) : Plain (parseRespTCPfc fc ⟨v, sp⟩) (parseRespTCPfc fc ⟨v, sp'⟩) := by
  unfold parseRespTCPfc
  split
  · exact run_parseByteCountRespTCP _ _ (by omega) v sp sp'
  · exact run_parseByteCountRespTCP _ _ (by omega) v sp sp'
  · exact run_parseByteCountRespTCP _ _ (by omega) v sp sp'
  · exact run_parseByteCountRespTCP _ _ (by omega) v sp sp'
  · exact run_parseFixedRespTCP v sp sp' fun u h => ⟨_, fun sp => mkWCoilResp_eq 8 u v sp (by omega)⟩
  · exact run_parseFixedRespTCP v sp sp' fun u h => ⟨_, fun sp => mkWRegResp_eq 8 u v sp (by omega)⟩
  · exact run_parseFixedRespTCP v sp sp' fun u h => ⟨_, fun sp => mkWMultiResp_eq _ 8 u v sp (by omega)⟩
  · exact run_parseFixedRespTCP v sp sp' fun u h => ⟨_, fun sp => mkWMultiResp_eq _ 8 u v sp (by omega)⟩
  · exact run_parseSidRespTCP v sp sp'
  · exact run_parseByteCountRespTCP _ _ (by omega) v sp sp'
  · exact .fail PErr.noConfusion

theorem run_parseRespRTUfc (fc : UInt8) (v sp sp' : Bytes) : Plain (parseRespRTUfc fc ⟨v, sp⟩) (parseRespRTUfc fc ⟨v, sp'⟩) := by
  unfold parseRespRTUfc
  split
  · exact run_parseByteCountRespRTU _ _ (by omega) v sp sp'
  · exact run_parseByteCountRespRTU _ _ (by omega) v sp sp'
  · exact run_parseByteCountRespRTU _ _ (by omega) v sp sp'
  · exact run_parseByteCountRespRTU _ _ (by omega) v sp sp'
  · exact run_parseFixedRespRTU v sp sp' fun u h => ⟨_, fun sp => mkWCoilResp_eq 2 u v sp (by omega)⟩
  · exact run_parseFixedRespRTU v sp sp' fun u h => ⟨_, fun sp => mkWRegResp_eq 2 u v sp (by omega)⟩
  · exact run_parseFixedRespRTU v sp sp' fun u h => ⟨_, fun sp => mkWMultiResp_eq _ 2 u v sp (by omega)⟩
  · exact run_parseFixedRespRTU v sp sp' fun u h => ⟨_, fun sp => mkWMultiResp_eq _ 2 u v sp (by omega)⟩
  · exact run_parseSidRespRTU v sp sp'
  · exact run_parseByteCountRespRTU _ _ (by omega) v sp sp'
  · exact .fail PErr.noConfusion

theorem asTCPErrorPacket_eq (v sp : Bytes) :
    asTCPErrorPacket ⟨v, sp⟩ =
      if v.length = 9 ∧ (v.getD 7 0) &&& 128 ≠ 0 then
        .ok (some (.excT (be16 (v.getD 0 0) (v.getD 1 0)) (v.getD 6 0) (v.getD 7 0 - 128) (v.getD 8 0)))
      else .ok none := by
  unfold asTCPErrorPacket; dsimp only
  by_cases hlen : v.length = 9
  · rw [if_neg (not_not_intro hlen), idx_eq v sp 7 (by omega), rd16_eq v sp 0 (by omega), idx_eq v sp 6 (by omega),
      idx_eq v sp 8 (by omega)]
    simp only [hlen, true_and]; rfl
  · rw [if_pos hlen, if_neg (fun h => hlen h.1)]

theorem asRTUErrorPacket_eq (v sp : Bytes) :
    asRTUErrorPacket ⟨v, sp⟩ =
      if v.length = 5 ∧ (v.getD 1 0) &&& 128 ≠ 0 then .ok (some (.excR (v.getD 0 0) (v.getD 1 0 - 128) (v.getD 2 0)))
      else .ok none := by
  unfold asRTUErrorPacket; dsimp only
  by_cases hlen : v.length = 5
  · rw [if_neg (not_not_intro hlen), idx_eq v sp 1 (by omega), idx_eq v sp 0 (by omega), idx_eq v sp 2 (by omega)]
    simp only [hlen, true_and]; rfl
  · rw [if_pos hlen, if_neg (fun h => hlen h.1)]

theorem asRTUErrorPacketWithCRC_eq (v sp : Bytes) :
    asRTUErrorPacketWithCRC ⟨v, sp⟩ =
      if v.length = 5 ∧ crcMatches v = true ∧ (v.getD 1 0) &&& 128 ≠ 0 then
        .ok (some (.excR (v.getD 0 0) (v.getD 1 0 - 128) (v.getD 2 0)))
      else .ok none := by
  unfold asRTUErrorPacketWithCRC; dsimp only
  by_cases h5 : v.length = 5
  · rw [if_neg (not_not_intro h5)]
    cases hc : crcMatches v
    · rw [if_pos (show (!false) = true from rfl), if_neg (fun h => Bool.noConfusion h.2.1)]
    · rw [if_neg (show ¬(!true) = true by decide), asRTUErrorPacket_eq]
      by_cases hb : v.getD 1 0 &&& 128 ≠ 0
      · rw [if_pos ⟨h5, hb⟩, if_pos ⟨h5, rfl, hb⟩]
      · rw [if_neg (fun h => hb h.2), if_neg (fun h => hb h.2.2)]
  · rw [if_pos h5, if_neg (fun h => h5 h.1)]

theorem parseTCPResponse_eq (v sp : Bytes) :
    parseTCPResponse ⟨v, sp⟩ =
      if v.length < 8 then .err .plain else
      if v.length = 9 ∧ (v.getD 7 0) &&& 128 ≠ 0 then
        .err (.excT (be16 (v.getD 0 0) (v.getD 1 0)) (v.getD 6 0) (v.getD 7 0 - 128) (v.getD 8 0))
      else parseRespTCPfc (v.getD 7 0) ⟨v, sp⟩ := by
  unfold parseTCPResponse; dsimp only
  split
  · rfl
  · rw [asTCPErrorPacket_eq]
    split
    · rfl
    · rw [Res.bind_ok, idx_eq v sp 7 (by omega)]; rfl

theorem parseRTUResponse_eq (v sp : Bytes) :
    parseRTUResponse ⟨v, sp⟩ =
      if v.length < 4 then .err .plain else
      if v.length = 5 ∧ (v.getD 1 0) &&& 128 ≠ 0 then .err (.excR (v.getD 0 0) (v.getD 1 0 - 128) (v.getD 2 0))
      else parseRespRTUfc (v.getD 1 0) ⟨v, sp⟩ := by
  unfold parseRTUResponse; dsimp only
  split
  · rfl
  · rw [asRTUErrorPacket_eq]
    split
    · rfl
    · rw [Res.bind_ok, idx_eq v sp 1 (by omega)]; rfl

theorem parseRTUResponseWithCRC_eq {v sp : Bytes} (h : 4 ≤ v.length) (hc : crcMatches v = true) :
    parseRTUResponseWithCRC ⟨v, sp⟩ = parseRTUResponse ⟨v, sp⟩ :=
  crcGuard_pass h hc

theorem run_parseTCPResponse (v sp sp' : Bytes) : Plain (parseTCPResponse ⟨v, sp⟩) (parseTCPResponse ⟨v, sp'⟩) := by
  rw [parseTCPResponse_eq, parseTCPResponse_eq]
  exact .ite (fun _ => .fail PErr.noConfusion) fun _ => .ite (fun _ => .fail PErr.noConfusion) fun _ => run_parseRespTCPfc _ v sp sp'

theorem run_parseRTUResponse (v sp sp' : Bytes) : Plain (parseRTUResponse ⟨v, sp⟩) (parseRTUResponse ⟨v, sp'⟩) := by
  rw [parseRTUResponse_eq, parseRTUResponse_eq]
  exact .ite (fun _ => .fail PErr.noConfusion) fun _ => .ite (fun _ => .fail PErr.noConfusion) fun _ => run_parseRespRTUfc _ v sp sp'

theorem run_parseRTUResponseWithCRC (v sp sp' : Bytes) :
    Run (fun _ => True) (fun _ => True) (parseRTUResponseWithCRC ⟨v, sp⟩) (parseRTUResponseWithCRC ⟨v, sp'⟩) :=
  (run_parseRTUResponse v sp sp').crcGuard

/-- `LooksLikeModbusTCP` on at least 8 bytes, in closed form over the header bytes -/
theorem looksLike_eq (v sp : Bytes) (allow : Bool) (h8 : 8 ≤ v.length) :
    looksLike ⟨v, sp⟩ allow =
      if ¬(v.getD 2 0 = 0 ∧ v.getD 3 0 = 0) then .ok (0, some .notTCP) else
      if be16 (v.getD 4 0) (v.getD 5 0) < 3 then .ok (0, some .notTCP) else
      if v.getD 7 0 = 0 then .ok (0, some .notTCP) else
      if allow then .ok ((be16 (v.getD 4 0) (v.getD 5 0)).toNat + 6, none) else
      if supportedFunctionCodes.contains (v.getD 7 0) then .ok ((be16 (v.getD 4 0) (v.getD 5 0)).toNat + 6, none) else
      .ok ((be16 (v.getD 4 0) (v.getD 5 0)).toNat + 6,
        some (.tcp 1 (be16 (v.getD 0 0) (v.getD 1 0)) (v.getD 6 0) (v.getD 7 0))) := by
  unfold looksLike
  dsimp only
  rw [if_neg (by omega), idx_eq v sp 2 (by omega), idx_eq v sp 3 (by omega), rd16_eq v sp 4 (by omega),
    idx_eq v sp 7 (by omega), rd16_eq v sp 0 (by omega), idx_eq v sp 6 (by omega)]
  rfl

theorem looksLike_short (v sp : Bytes) (allow : Bool) (h8 : v.length < 8) :
    looksLike ⟨v, sp⟩ allow = .ok (0, some .tooShortT) := by
  unfold looksLike
  dsimp only
  rw [if_pos h8]

theorem looksLike_append (a b sp sp' : Bytes) (allow : Bool) (h8 : 8 ≤ a.length) :
    looksLike ⟨a ++ b, sp⟩ allow = looksLike ⟨a, sp'⟩ allow := by
  have hg : ∀ i, i < 8 → (a ++ b).getD i 0 = a.getD i 0 := fun i hi => getD_append_left a b (by omega)
  rw [looksLike_eq (a ++ b) sp allow (by simp; omega), looksLike_eq a sp' allow h8]
  simp only [hg, Nat.reduceLT]

theorem looksLike_take (v sp sp' : Bytes) (allow : Bool) (k : Nat) (hk : 8 ≤ k) (h8 : 8 ≤ v.length) :
    looksLike ⟨v.take k, sp⟩ allow = looksLike ⟨v, sp'⟩ allow := by
  have := looksLike_append (v.take k) (v.drop k) sp' sp allow (by simp; omega)
  rwa [List.take_append_drop, eq_comm] at this

/-- what a verdict `(n, e)` of the classifier other than "too short" and "not Modbus" says about the header of `v`:
the frame has 6 + the length field (at least 3) bytes, the protocol identifier is zero, and an exception comes with
the verdict only if the function code is not supported -/
structure FrameHeader (v : Bytes) (n : Nat) (e : Option PErr) : Prop where
  len : 9 ≤ n
  len_eq : n = (be16 (v.getD 4 0) (v.getD 5 0)).toNat + 6
  proto : v.getD 2 0 = 0 ∧ v.getD 3 0 = 0
  field : ¬ be16 (v.getD 4 0) (v.getD 5 0) < 3
  supported : e = none → supportedFunctionCodes.contains (v.getD 7 0) = true

theorem looksLike_cases (v sp : Bytes) (h8 : 8 ≤ v.length) :
    looksLike ⟨v, sp⟩ false = .ok (0, some .notTCP) ∨
    ∃ n e, looksLike ⟨v, sp⟩ false = .ok (n, e) ∧ e ≠ some .tooShortT ∧ e ≠ some .notTCP ∧ FrameHeader v n e := by
  rw [looksLike_eq v sp false h8]
  by_cases h1 : v.getD 2 0 = 0 ∧ v.getD 3 0 = 0
  · rw [if_neg (not_not_intro h1)]
    by_cases h2 : be16 (v.getD 4 0) (v.getD 5 0) < 3
    · exact .inl (if_pos h2)
    · rw [if_neg h2]
      by_cases h3 : v.getD 7 0 = 0
      · exact .inl (if_pos h3)
      · rw [if_neg h3, if_neg Bool.false_ne_true]
        have h9 : 9 ≤ (be16 (v.getD 4 0) (v.getD 5 0)).toNat + 6 := Nat.add_le_add_right (not_lt_three.1 h2) 6
        by_cases h5 : supportedFunctionCodes.contains (v.getD 7 0) = true
        · exact .inr ⟨_, _, if_pos h5, nofun, nofun, h9, rfl, h1, h2, fun _ => h5⟩
        · exact .inr ⟨_, _, if_neg h5, nofun, nofun, h9, rfl, h1, h2, nofun⟩
  · exact .inl (if_pos h1)

theorem looksLike_frame (v sp : Bytes) (n : Nat) (e : Option PErr) (h : looksLike ⟨v, sp⟩ false = .ok (n, e))
    (hts : e ≠ some .tooShortT) (hnt : e ≠ some .notTCP) : 8 ≤ v.length ∧ FrameHeader v n e := by
  by_cases h8 : v.length < 8
  · rw [looksLike_short v sp false h8] at h
    cases h; exact absurd rfl hts
  · rcases looksLike_cases v sp (by omega) with h' | ⟨n', e', h', -, -, hv⟩ <;> rw [h'] at h <;> cases h
    · exact absurd rfl hnt
    · exact ⟨by omega, hv⟩

end Modbus.Lemmas
