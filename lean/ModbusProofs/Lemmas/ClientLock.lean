import Modbus.Model.ClientLock
/-
  The invariant of the client lock model. At most one thread is inside a call, and its stage determines the mutex,
  the transport's queue and the wire log (`Shape`); a step changes that thread alone, so the invariant is read off
  (`Inv.shape`) and re-established (`inv_move`) thread by thread. `step_spec` walks the case tree of `step` once,
  for preservation and for progress.
-/
namespace Modbus.Lemmas.ClientLock
open Modbus.Model.ClientLock

@[simp] theorem upd_same (f : Nat → Thread) (t : Nat) (v : Thread) : upd f t v t = v := by simp [upd]
theorem upd_other (f : Nat → Thread) (t u : Nat) (v : Thread) (h : u ≠ t) : upd f t v u = f u := by simp [upd, h]
theorem upd_self (f : Nat → Thread) (t : Nat) : upd f t (f t) = f := by
  funext u
  by_cases h : u = t <;> simp [upd, h]

theorem wireRun_append (st : Option Open) (a b : List WireEv) :
    wireRun st (a ++ b) = match wireRun st a with
      | some st' => wireRun st' b
      | none => none := by
  induction a generalizing st with
  | nil => rfl
  | cons e es ih =>
    simp only [List.cons_append, wireRun]
    cases wireStep st e with
    | none => rfl
    | some st' => exact ih st'

theorem wireRun_snoc {st st' : Option Open} {a : List WireEv} (h : wireRun st a = some st') (e : WireEv) :
    wireRun st (a ++ [e]) = wireStep st' e := by
  rw [wireRun_append, h]
  simp only [wireRun]
  cases wireStep st' e <;> rfl

/-- the exchange that is open on the wire in state `s` -/
def cur (s : St) : Option Open :=
  match s.holder with
  | none => none
  | some t =>
    match (s.th t).stage, s.conn, s.pending with
    | .reading id, some (k, _), (_, i, _) :: _ => some (t, k, id, i)
    | _, _, _ => none

structure Inv (nch : Nat → Nat) (progs : Nat → List Call) (s : St) : Prop where
  /-- mutual exclusion: exactly the holder of the mutex is inside a call -/
  mutex : ∀ t, (s.th t).stage ≠ .out ↔ s.holder = some t
  /-- the transport's queue holds the rest of the holder's reply and nothing else -/
  pend : ∀ t, s.holder = some t →
    match (s.th t).stage with
    | .reading id => ∃ k r, s.conn = some (k, true) ∧ r < nch id + 1 ∧ s.pending = chunksAux id (nch id + 1) (r + 1)
    | _ => s.pending = []
  /-- with the mutex free nothing is queued -/
  pend0 : s.holder = none → s.pending = []
  /-- the wire log is a sequence of whole exchanges followed by the holder's exchange so far -/
  wire : wireRun none s.wire = some (cur s)
  /-- every completed call got an outcome that fits it -/
  done : ∀ t, ∀ x ∈ (s.th t).done, Matches x
  /-- calls are carried out once each, in program order -/
  prog : ∀ t, (s.th t).done.map (·.1) ++ (s.th t).todo = progs t
  /-- a thread that holds the mutex for a call has that call at the head of its program -/
  headH : ∀ t c, (s.th t).stage = .held c → (s.th t).todo.head? = some c
  /-- a thread reading the reply to request `id` has `Do id` at the head of its program -/
  headR : ∀ t id, (s.th t).stage = .reading id → (s.th t).todo.head? = some (.doReq id)

theorem chunksAux_head (id n r : Nat) : chunksAux id n (r + 1) = (id, n - r, n) :: chunksAux id n r := rfl

/-- `Inv`'s clauses about the shared state (`mutex`, `pend`, `pend0`, `wire`) by the stage of `t`, the only thread that
may be inside a call, bundled for `inv_move`: `t` holds the mutex unless it is outside; the transport's queue and the
wire log are in the middle of the reply to `t`'s request, or nothing is queued and no exchange is open -/
def Shape (nch : Nat → Nat) (s : St) (t : Nat) (st : Stage) : Prop :=
  s.holder = (if st = .out then none else some t) ∧
  match st with
  | .reading id => ∃ k r, s.conn = some (k, true) ∧ r < nch id + 1 ∧ s.pending = chunksAux id (nch id + 1) (r + 1) ∧
      wireRun none s.wire = some (some (t, k, id, nch id + 1 - r))
  | _ => s.pending = [] ∧ wireRun none s.wire = some none

/-- `Inv`'s clauses about one thread by itself (`done`, `prog`, `headH`, `headR`), bundled for `inv_move` -/
structure ThreadOk (progs : Nat → List Call) (t : Nat) (th : Thread) : Prop where
  done : ∀ x ∈ th.done, Matches x
  prog : th.done.map (·.1) ++ th.todo = progs t
  headH : ∀ c, th.stage = .held c → th.todo.head? = some c
  headR : ∀ id, th.stage = .reading id → th.todo.head? = some (.doReq id)

variable {nch : Nat → Nat} {progs : Nat → List Call} {s : St}

theorem Inv.thread (h : Inv nch progs s) (t : Nat) : ThreadOk progs t (s.th t) :=
  ⟨h.done t, h.prog t, h.headH t, h.headR t⟩

theorem Inv.others (h : Inv nch progs s) {t : Nat} (hs : s.holder = some t ∨ s.holder = none) {u : Nat}
    (hu : u ≠ t) : (s.th u).stage = .out := by
  refine Decidable.not_not.1 fun hst => ?_
  have := (h.mutex u).1 hst
  rcases hs with hs | hs <;> rw [hs] at this <;> cases this
  exact hu rfl

theorem Inv.shape (h : Inv nch progs s) {t : Nat} (hs : s.holder = some t ∨ s.holder = none) :
    Shape nch s t (s.th t).stage := by
  have hw := h.wire
  rcases hs with ht | ht
  · have hp := h.pend t ht
    have hst := (h.mutex t).2 ht
    simp only [cur, ht] at hw
    refine ⟨by rw [ht, if_neg hst], ?_⟩
    revert hp hw
    cases (s.th t).stage with
    | reading id =>
      rintro ⟨k, r, hc, hr, hp⟩ hw
      rw [hc, hp] at hw
      exact ⟨k, r, hc, hr, hp, hw⟩
    | _ => exact fun hp hw => ⟨hp, hw⟩
  · have hst : (s.th t).stage = .out := Decidable.not_not.1 fun hst => by simpa [ht] using (h.mutex t).1 hst
    simp only [cur, ht] at hw
    rw [hst]
    exact ⟨ht, h.pend0 ht, hw⟩

/-- thread `t`, the holder if there is one, moves or stays as it is; all others are outside a call -/
theorem inv_move (h : Inv nch progs s) {t : Nat} (hs : s.holder = some t ∨ s.holder = none)
    (s' : St) (v : Thread) (hth : s'.th = upd s.th t v) (hsh : Shape nch s' t v.stage) (hv : ThreadOk progs t v) :
    Inv nch progs s' := by
  obtain ⟨hho, hsh⟩ := hsh
  have ht : s'.th t = v := by rw [hth, upd_same]
  -- a statement about every thread: about `v` for `t`, about a thread of `s` that is outside a call for the others
  have all : ∀ {P : Nat → Thread → Prop}, P t v → (∀ u, u ≠ t → (s.th u).stage = .out → P u (s.th u)) →
      ∀ u, P u (s'.th u) := by
    intro P hv ho u
    by_cases hut : u = t
    · rw [hut, ht]; exact hv
    · rw [hth, upd_other _ _ _ _ hut]; exact ho u hut (h.others hs hut)
  have ok := all (P := ThreadOk progs) hv fun u _ _ => h.thread u
  refine ⟨all (P := fun u th => th.stage ≠ .out ↔ s'.holder = some u) ?_ ?_, fun u hu => ?_, ?_, ?_,
    fun u => (ok u).done, fun u => (ok u).prog, fun u => (ok u).headH, fun u => (ok u).headR⟩
  · rw [hho]; split <;> simp [*]
  · intro u hut hst; rw [hho, hst]; split <;> simp [Ne.symm hut]
  · rw [hho] at hu
    split at hu <;> cases hu
    rw [ht]; revert hsh
    cases v.stage with
    | reading id => rintro ⟨k, r, hc, hr, hp, -⟩; exact ⟨k, r, hc, hr, hp⟩
    | _ => exact fun hsh => hsh.1
  · rw [hho]; revert hsh
    cases v.stage with
    | out => exact fun hsh _ => hsh.1
    | _ => exact fun _ hn => nomatch hn
  · rw [cur, hho]; revert hsh
    cases hst : v.stage with
    | out => exact fun hsh => hsh.2
    | held c => exact fun hsh => by simpa [ht, hst] using hsh.2
    | reading id => rintro ⟨k, r, hc, -, hp, hw⟩; simpa [ht, hst, hc, hp, chunksAux_head] using hw

theorem inv_init (nch : Nat → Nat) (progs : Nat → List Call) (c : Bool) : Inv nch progs (init progs c) := by
  constructor <;> simp [init, wireRun, cur]

/-- the holder `t` returns from the call `c` at the head of its program; `s'` is `s` after the call's last access to
the transport. The mutex is free afterwards, so the state has changed. -/
theorem finish_spec (h : Inv nch progs s) {t : Nat} (ht : s.holder = some t) {c : Call}
    (hc : (s.th t).todo.head? = some c) {s' : St} {o : Outcome} (hth : s'.th = s.th) (hp : s'.pending = [])
    (hw : wireRun none s'.wire = some none) (hm : Matches (c, o)) :
    Inv nch progs (finish s' t o) ∧ finish s' t o ≠ s := by
  obtain ⟨cs, htodo⟩ : ∃ cs, (s.th t).todo = c :: cs := by
    cases hl : (s.th t).todo <;> simp_all
  refine ⟨?_, fun e => by rw [← e] at ht; cases ht⟩
  cases s'
  cases hth
  refine inv_move h (.inl ht) _ _ rfl ⟨rfl, hp, hw⟩ ⟨?_, ?_, nofun, nofun⟩
  · simp only [htodo, List.headD_cons, List.mem_append, List.mem_singleton]
    rintro x (hx | rfl)
    · exact h.done t x hx
    · exact hm
  · simpa [htodo] using h.prog t

/-- C14: a step preserves the invariant, and changes the state (no deadlock) if the thread is inside a call or can
take the mutex for its next call -/
theorem step_spec (h : Inv nch progs s) (t : Nat) : Inv nch progs (step nch s t) ∧
    ((s.th t).stage ≠ .out ∨ s.holder = none ∧ (s.th t).todo ≠ [] → step nch s t ≠ s) := by
  cases hst : (s.th t).stage with
  | out =>
    simp only [step, hst]
    cases htodo : (s.th t).todo with
    | nil => exact ⟨h, fun he => (he.elim (· rfl) (·.2 rfl)).elim⟩
    | cons c cs =>
      cases hh : s.holder with
      | some u => exact ⟨h, fun he => (he.elim (· rfl) (nomatch ·.1)).elim⟩
      | none =>
        have hsh := h.shape (t := t) (.inr hh)
        rw [hst] at hsh
        exact ⟨inv_move h (.inr hh) _ _ rfl ⟨rfl, hsh.2⟩ ⟨h.done t, htodo ▸ h.prog t, fun c' e => by cases e; rfl, nofun⟩,
          fun _ e => by rw [← e] at hh; cases hh⟩
  | held c =>
    have ht := (h.mutex t).1 (by rw [hst]; nofun)
    have hsh := h.shape (.inl ht)
    rw [hst] at hsh
    obtain ⟨-, hp, hw⟩ := hsh
    have hc := h.headH t c hst
    -- the log after one more event that is not part of an exchange
    have hw' : ∀ e, wireStep none e = some none → wireRun none (s.wire ++ [e]) = some none :=
      fun e he => (wireRun_snoc hw e).trans he
    refine And.imp_right (fun hne _ => hne) ?_
    cases c with
    | connect =>
      simp only [step, hst]
      exact finish_spec h ht hc rfl rfl (hw' _ rfl) trivial
    | close =>
      simp only [step, hst]
      cases s.conn with
      | none => exact finish_spec h ht hc rfl hp hw trivial
      | some kc => exact finish_spec h ht hc rfl hp (hw' _ rfl) trivial
    | doReq id =>
      simp only [step, hst]
      cases hcn : s.conn with
      | none => exact finish_spec h ht hc rfl hp hw trivial
      | some kc =>
        obtain ⟨k, b⟩ := kc
        cases b with
        | false => exact finish_spec h ht hc rfl hp (hw' _ rfl) trivial
        | true =>
          simp only []
          refine ⟨inv_move h (.inl ht) _ _ rfl ⟨ht, k, nch id, rfl, Nat.lt_succ_self _, ?_, ?_⟩
            ⟨h.done t, h.prog t, nofun, fun _ e => by cases e; exact hc⟩,
            fun e => by simpa using congrArg (·.wire.length) e⟩
          · simp only [hp]; rfl
          · simp only [wireRun_snoc hw, wireStep, Nat.add_sub_cancel_left]
  | reading id =>
    have ht := (h.mutex t).1 (by rw [hst]; nofun)
    have hsh := h.shape (.inl ht)
    rw [hst] at hsh
    obtain ⟨-, k, r, hcn, hr, hp, hw⟩ := hsh
    refine And.imp_right (fun hne _ => hne) ?_
    simp only [step, hst, hcn, hp, chunksAux_head]
    cases r with
    | zero =>
      -- the last chunk: the call returns with the reply to its own request
      rw [if_pos (Nat.sub_zero _)]
      exact finish_spec h ht (h.headR t id hst) rfl rfl (by simp [wireRun_snoc hw, wireStep]) rfl
    | succ r =>
      have hlast : ¬ nch id + 1 - (r + 1) = nch id + 1 := by omega
      have hnext : nch id + 1 - (r + 1) + 1 = nch id + 1 - r := by omega
      rw [if_neg hlast]
      refine ⟨inv_move h (.inl ht) _ _ (upd_self _ _).symm ?_ (h.thread t),
        fun e => by simpa using congrArg (·.wire.length) e⟩
      rw [hst]
      refine ⟨ht, k, r, rfl, by omega, rfl, ?_⟩
      simp only [wireRun_snoc hw, wireStep, and_self, if_true, if_neg hlast, hnext]

theorem inv_run (nch : Nat → Nat) (progs : Nat → List Call) (s : St) (sched : List Nat) (h : Inv nch progs s) :
    Inv nch progs (run nch s sched) :=
  List.foldlRecOn sched (step nch) h fun _ hs t _ => (step_spec hs t).1

end Modbus.Lemmas.ClientLock
