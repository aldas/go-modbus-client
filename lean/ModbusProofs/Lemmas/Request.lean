import ModbusProofs.Lemmas.Crc
import ModbusProofs.Lemmas.Attr
/-
  Contracts of the request parsers (`Model/Request.lean`): what is accepted and which errors are returned, as one `Run`
  per dispatcher - `parseReqTCPfc fc` and `parseReqRTUfc fc` ARE the per-function parsers, selected by function code -
  and one for each entry point; spare-capacity independence and the absence of panics come with it.
-/
namespace Modbus.Lemmas
open Modbus.Model

/-- the header conditions other than the minimum length -/
def MBAPrest (v : Bytes) : Prop :=
  v.getD 2 0 = 0 ∧ v.getD 3 0 = 0 ∧ be16 (v.getD 4 0) (v.getD 5 0) ≠ 0 ∧
    v.length = 6 + (be16 (v.getD 4 0) (v.getD 5 0)).toNat

/-- `ParseMBAPHeader` succeeds, with the transaction id, exactly on at least 7 bytes with protocol id 0 and a
non-zero length field equal to the number of bytes that follow -/
theorem run_parseMBAP (v sp sp' : Bytes) :
    Run (fun t => t = be16 (v.getD 0 0) (v.getD 1 0) ∧ 7 ≤ v.length ∧ MBAPrest v)
      (fun e => e = .tcp 4 0 0 0 ∧ ¬(7 ≤ v.length ∧ MBAPrest v)) (parseMBAP ⟨v, sp⟩) (parseMBAP ⟨v, sp'⟩) := by
  unfold parseMBAP MBAPrest
  dsimp only
  refine .ite (fun _ => .fail ⟨rfl, by omega⟩) fun _ => .idx (by omega) <| .idx (by omega) <|
    .ite (fun h => .fail ⟨rfl, fun m => h.elim (absurd m.2.1) (absurd m.2.2.1)⟩) fun h => .rd16 (by omega) <|
    .ite (fun h0 => .fail ⟨rfl, fun m => m.2.2.2.1 h0⟩) fun h0 =>
    .ite (fun hl => .fail ⟨rfl, fun m => hl m.2.2.2.2⟩) fun hl => ?_
  have hn : (be16 (v.getD 4 0) (v.getD 5 0)).toNat ≠ 0 := fun e => h0 (UInt16.toNat_inj.1 e)
  have hl : v.length = 6 + (be16 (v.getD 4 0) (v.getD 5 0)).toNat := Decidable.of_not_not hl
  rw [rd16_eq v sp 0 (by omega), rd16_eq v sp' 0 (by omega)]
  exact .ret ⟨rfl, by omega, Decidable.of_not_not fun h2 => h (.inl h2), Decidable.of_not_not fun h3 => h (.inr h3), h0, hl⟩

theorem Run.mbap {β : Type} {Q : β → Prop} {E : PErr → Prop} {v sp sp' : Bytes} {f g : UInt16 → PRes β}
    (he : ¬(7 ≤ v.length ∧ MBAPrest v) → E (.tcp 4 0 0 0))
    (k : 7 ≤ v.length → MBAPrest v →
      Run Q E (f (be16 (v.getD 0 0) (v.getD 1 0))) (g (be16 (v.getD 0 0) (v.getD 1 0)))) :
    Run Q E ((parseMBAP ⟨v, sp⟩).bind f) ((parseMBAP ⟨v, sp'⟩).bind g) :=
  ((run_parseMBAP v sp sp').mono (fun _ h => h) (fun _ h => h.1 ▸ he h.2)).bind fun _ h => h.1 ▸ k h.2.1 h.2.2

/-- the fields of an accepted request, in terms of the PDU bytes `p` (function code at `p[0]`) -/
def FieldsOf (p : Bytes) : Req → Prop
  | .read _ _ a q =>
      a = be16 (p.getD 1 0) (p.getD 2 0) ∧ q = be16 (p.getD 3 0) (p.getD 4 0) ∧ q ≥ 1 ∧ q ≤ 125
  | .wcoil _ a s =>
      a = be16 (p.getD 1 0) (p.getD 2 0) ∧
      ((be16 (p.getD 3 0) (p.getD 4 0) = 0xFF00 ∧ s = true) ∨ (be16 (p.getD 3 0) (p.getD 4 0) = 0 ∧ s = false))
  | .wreg _ a d0 d1 => a = be16 (p.getD 1 0) (p.getD 2 0) ∧ d0 = p.getD 3 0 ∧ d1 = p.getD 4 0
  | .wcoils _ a c d =>
      a = be16 (p.getD 1 0) (p.getD 2 0) ∧ c = be16 (p.getD 3 0) (p.getD 4 0) ∧ c ≥ 1 ∧ c ≤ 1968 ∧
      d = (p.drop 6).take (p.getD 5 0).toNat ∧ d.length = (p.getD 5 0).toNat
  | .wregs _ a c d =>
      a = be16 (p.getD 1 0) (p.getD 2 0) ∧ c = be16 (p.getD 3 0) (p.getD 4 0) ∧ c ≥ 1 ∧ c ≤ 123 ∧
      d = (p.drop 6).take (p.getD 5 0).toNat ∧ d.length = (p.getD 5 0).toNat
  | .sid _ => True
  | .rw _ ra rq wa wq d =>
      ra = be16 (p.getD 1 0) (p.getD 2 0) ∧ rq = be16 (p.getD 3 0) (p.getD 4 0) ∧ rq ≥ 1 ∧ rq ≤ 125 ∧
      wa = be16 (p.getD 5 0) (p.getD 6 0) ∧ wq = be16 (p.getD 7 0) (p.getD 8 0) ∧ wq ≥ 1 ∧ wq ≤ 121 ∧
      d = (p.drop 10).take (p.getD 9 0).toNat ∧ d.length = (p.getD 9 0).toNat

/-- an accepted TCP request: transaction id, unit id, function code and fields are the frame's -/
def AcceptedTCP (fc : UInt8) (v : Bytes) (x : UInt16 × Req) : Prop :=
  x.1 = be16 (v.getD 0 0) (v.getD 1 0) ∧ x.2.unit = v.getD 6 0 ∧ x.2.fc = fc ∧ v.getD 7 0 = fc ∧
  FieldsOf (v.drop 7) x.2

def AcceptedRTU (fc : UInt8) (v : Bytes) (r : Req) : Prop :=
  r.unit = v.getD 0 0 ∧ r.fc = fc ∧ v.getD 1 0 = fc ∧ FieldsOf (v.drop 1) r

/-- the exception the server sends for a frame (with a supported function code) that its parser refuses: the
frame's transaction id and unit id, the frame's function code, code 3 (illegal data value). (Code 1 is produced by
the classifier for unsupported function codes; the parsers' own "illegal function" branch is unreachable through
the dispatcher, which selects the parser by the frame's function code.) -/
def ErrFor (v : Bytes) (e : PErr) : Prop :=
  e = .tcp 3 (be16 (v.getD 0 0) (v.getD 1 0)) (v.getD 6 0) (v.getD 7 0)

/-- the errors of the TCP parser for function `fc`: once the header parses and the parser was selected by the frame's
own, supported, function code, every error is an `ErrFor` -/
def TcpErr (fc : UInt8) (v : Bytes) (e : PErr) : Prop :=
  7 ≤ v.length ∧ MBAPrest v → v.getD 7 0 = fc → fc ∈ supportedFunctionCodes → ErrFor v e

namespace TcpErr
variable {fc : UInt8} {v : Bytes} {e : PErr}
theorem header (h : ¬(7 ≤ v.length ∧ MBAPrest v)) : TcpErr fc v e := fun h' _ _ => absurd h' h
theorem function (h : v.getD 7 0 ≠ fc) : TcpErr fc v e := fun _ h' _ => absurd h' h
theorem value : TcpErr fc v (.tcp 3 (be16 (v.getD 0 0) (v.getD 1 0)) (v.getD 6 0) fc) := fun _ h _ => by rw [ErrFor, h]
end TcpErr

attribute [fields] AcceptedTCP AcceptedRTU FieldsOf Req.unit Req.fc getD_drop List.drop_drop true_and

theorem wcoil_state {raw : UInt16} (h : ¬(raw ≠ 0xFF00 ∧ raw ≠ 0)) :
    (raw = 0xFF00 ∧ (raw == 0xFF00) = true) ∨ (raw = 0 ∧ (raw == 0xFF00) = false) := by
  by_cases h1 : raw = 0xFF00
  · exact .inl ⟨h1, by rw [h1]; rfl⟩
  · have h0 : raw = 0 := Decidable.of_not_not fun h0 => h ⟨h1, h0⟩
    exact .inr ⟨h0, by rw [h0]; rfl⟩

/-- the four `ParseRead*RequestTCP` functions share their body -/
theorem run_parseReadReqTCP (fc : UInt8) (v sp sp' : Bytes) :
    Run (AcceptedTCP fc v) (TcpErr fc v) (parseReadReqTCP fc 125 ⟨v, sp⟩) (parseReadReqTCP fc 125 ⟨v, sp'⟩) := by
  unfold parseReadReqTCP; dsimp only
  refine Run.mbap TcpErr.header fun _ _ => ?_; run_walk
  any_goals first | exact TcpErr.value | exact TcpErr.function ‹_›
  -- the value leaf: the fields read are the frame's bytes at the offsets of `FieldsOf`, the guards passed (`*`) its ranges
  simp only [fields, Nat.reduceAdd, *]

theorem run_parseReadReqRTU (fc : UInt8) (v sp sp' : Bytes) :
    Run (AcceptedRTU fc v) (· ≠ .badCRC) (parseReadReqRTU fc 125 ⟨v, sp⟩) (parseReadReqRTU fc 125 ⟨v, sp'⟩) := by
  unfold parseReadReqRTU; dsimp only; run_walk
  any_goals exact PErr.noConfusion
  simp only [fields, Nat.reduceAdd, *]

/-- The contract of the ten `Parse*RequestTCP` functions, as the dispatcher selects them by function code (so
`run_parseReqTCPfc 23` is the contract of `parseRWReqTCP`). Every branch is straight-line code of the same kind, and the
same walk goes through each: the header, then the body; the error leaves are of two kinds (`TcpErr.value`: code 3
for the frame's own function code; `TcpErr.function`: the function byte is not the parser's), the value leaf is a
`simp only` with the `fields` set. -/
theorem run_parseReqTCPfc (fc : UInt8) (v sp sp' : Bytes) :
    Run (AcceptedTCP fc v) (TcpErr fc v) (parseReqTCPfc fc ⟨v, sp⟩) (parseReqTCPfc fc ⟨v, sp'⟩) := by
  unfold parseReqTCPfc parseWCoilReqTCP parseWRegReqTCP parseWCoilsReqTCP parseWRegsReqTCP parseSidReqTCP parseRWReqTCP
  dsimp only
  split
  rotate_right
  -- the default branch is taken for none of the ten supported codes
  · exact .fail fun _ _ h => by simp_all [supportedFunctionCodes]
  iterate 4 exact run_parseReadReqTCP _ v sp sp'
  all_goals (refine Run.mbap TcpErr.header fun _ _ => ?_; run_walk)
  any_goals first | exact TcpErr.value | exact TcpErr.function ‹_›
  all_goals simp only [fields, Nat.reduceAdd, List.length_take, List.length_drop, *]
  -- left: the coil value of FC5, and that the payloads of FC15, FC16, FC23 are as long as their byte counts say:
  -- `min n (len - a) = n`, from the length guard (`omega` on the `min` itself costs five times as much)
  · exact wcoil_state ‹_›
  all_goals exact Nat.min_eq_left (Nat.le_sub_of_add_le' (by omega))

/-- the ten `Parse*RequestRTU` functions -/
theorem run_parseReqRTUfc (fc : UInt8) (v sp sp' : Bytes) :
    Run (AcceptedRTU fc v) (· ≠ .badCRC) (parseReqRTUfc fc ⟨v, sp⟩) (parseReqRTUfc fc ⟨v, sp'⟩) := by
  unfold parseReqRTUfc parseWCoilReqRTU parseWRegReqRTU parseWCoilsReqRTU parseWRegsReqRTU parseSidReqRTU parseRWReqRTU
  dsimp only
  split
  iterate 4 exact run_parseReadReqRTU _ v sp sp'
  all_goals run_walk
  any_goals exact PErr.noConfusion
  all_goals simp only [fields, Nat.reduceAdd, List.length_take, List.length_drop, *]
  · exact wcoil_state ‹_›
  all_goals exact Nat.min_eq_left (Nat.le_sub_of_add_le' (by omega))

theorem run_parseTCPRequest (v sp sp' : Bytes) :
    Run (AcceptedTCP (v.getD 7 0) v) (fun e => 8 ≤ v.length → TcpErr (v.getD 7 0) v e)
      (parseTCPRequest ⟨v, sp⟩) (parseTCPRequest ⟨v, sp'⟩) := by
  unfold parseTCPRequest; dsimp only
  exact .ite (fun _ => .fail fun _ => by omega) fun _ =>
    .idx (by omega) ((run_parseReqTCPfc _ v sp sp').mono (fun _ h => h) fun _ h _ => h)

theorem run_parseRTURequest (v sp sp' : Bytes) :
    Run (AcceptedRTU (v.getD 1 0) v) (· ≠ .badCRC) (parseRTURequest ⟨v, sp⟩) (parseRTURequest ⟨v, sp'⟩) := by
  unfold parseRTURequest; dsimp only
  exact .ite (fun _ => .fail PErr.noConfusion) fun _ => .idx (by omega) (run_parseReqRTUfc _ v sp sp')

theorem run_parseRTURequestWithCRC (v sp sp' : Bytes) :
    Run (AcceptedRTU (v.getD 1 0) v) (fun _ => True)
      (parseRTURequestWithCRC ⟨v, sp⟩) (parseRTURequestWithCRC ⟨v, sp'⟩) :=
  (run_parseRTURequest v sp sp').crcGuard

theorem parseTCPRequest_eq {v sp : Bytes} (h : 8 ≤ v.length) :
    parseTCPRequest ⟨v, sp⟩ = parseReqTCPfc (v.getD 7 0) ⟨v, sp⟩ := by
  unfold parseTCPRequest; dsimp only
  rw [if_neg (by omega), idx_eq v sp 7 (by omega)]; rfl

theorem parseRTURequest_eq {v sp : Bytes} (h : 4 ≤ v.length) :
    parseRTURequest ⟨v, sp⟩ = parseReqRTUfc (v.getD 1 0) ⟨v, sp⟩ := by
  unfold parseRTURequest; dsimp only
  rw [if_neg (by omega), idx_eq v sp 1 (by omega)]; rfl

theorem parseRTURequestWithCRC_eq {v sp : Bytes} (h : 4 ≤ v.length) (hc : crcMatches v = true) :
    parseRTURequestWithCRC ⟨v, sp⟩ = parseRTURequest ⟨v, sp⟩ :=
  crcGuard_pass h hc

end Modbus.Lemmas
