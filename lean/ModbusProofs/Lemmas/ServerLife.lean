import Modbus.Model.ServerLife
/-
  The invariant `CInv` of one connection record of the server lifecycle model, and why each process keeps it.
  Every clause of `CInv` but `closedS` mentions the program counter of the goroutine. A step that leaves the program
  counter alone is a structure update `{ h with ... }` of the proof: only the clauses that read a changed field are
  proved again. A step of the goroutine is such updates composed with `CInv.move`, which changes the program counter.
-/
namespace Modbus.Lemmas.ServerLife
open Modbus.Model.ServerLife

@[simp] theorem updC_same (f : Nat → Conn) (c : Nat) (v : Conn) : updC f c v c = v := by simp [updC]
theorem updC_other (f : Nat → Conn) (c d : Nat) (v : Conn) (h : d ≠ c) : updC f c v d = f d := by simp [updC, h]

@[simp] theorem setC_conns_same (s : St) (c : Nat) (v : Conn) : (s.setC c v).conns c = v := by simp [St.setC]
theorem setC_conns_other (s : St) (c d : Nat) (v : Conn) (h : d ≠ c) : (s.setC c v).conns d = s.conns d := by
  simp [St.setC, updC, h]
@[simp] theorem setC_ids (s : St) (c : Nat) (v : Conn) : (s.setC c v).ids = s.ids := rfl
@[simp] theorem setC_acc (s : St) (c : Nat) (v : Conn) : (s.setC c v).acc = s.acc := rfl
@[simp] theorem setC_sd (s : St) (c : Nat) (v : Conn) : (s.setC c v).sd = s.sd := rfl
@[simp] theorem setC_queue (s : St) (c : Nat) (v : Conn) : (s.setC c v).queue = s.queue := rfl
@[simp] theorem setC_count (s : St) (c : Nat) (v : Conn) : (s.setC c v).count = s.count := rfl
@[simp] theorem setC_isShutdown (s : St) (c : Nat) (v : Conn) : (s.setC c v).isShutdown = s.isShutdown := rfl
@[simp] theorem setC_listenerOpen (s : St) (c : Nat) (v : Conn) : (s.setC c v).listenerOpen = s.listenerOpen := rfl
@[simp] theorem setC_listenerSet (s : St) (c : Nat) (v : Conn) : (s.setC c v).listenerSet = s.listenerSet := rfl
@[simp] theorem setC_ctx (s : St) (c : Nat) (v : Conn) : (s.setC c v).ctxCancelled = s.ctxCancelled := rfl
@[simp] theorem setC_sdctx (s : St) (c : Nat) (v : Conn) : (s.setC c v).sdCtxExpired = s.sdCtxExpired := rfl
@[simp] theorem setC_muFree (s : St) (c : Nat) (v : Conn) : (s.setC c v).muFree = s.muFree := rfl

/-- the connection in the hands of the accept loop -/
def accConn : APc → Option Nat
  | .ctxCheck c => some c
  | .callCb c => some c
  | .inCb c => some c
  | .track c => some c
  | _ => none

/-- between trackConn(c, true) and trackConn(c, false) -/
def Counted (cn : Conn) : Bool :=
  match cn.pc with
  | .loopTop | .gotRequest _ _ | .handling _ _ | .writing _ | .written | .cleanupClose | .cleanupUntrack => true
  | _ => false

def liveCount (s : St) : Nat := s.ids.countP fun c => Counted (s.conns c)

/-- in the read loop or in a request: the goroutine uses the socket -/
def Active (cn : Conn) : Bool :=
  match cn.pc with
  | .loopTop | .gotRequest _ _ | .handling _ _ | .writing _ | .written => true
  | _ => false

def InRequest (cn : Conn) : Bool :=
  match cn.pc with
  | .handling _ _ | .writing _ | .written => true
  | _ => false

def Cleaned (cn : Conn) : Bool :=
  match cn.pc with
  | .cleanupUntrack | .cleanupCb | .done => true
  | _ => false

/-- a connection the server has not touched yet -/
structure Fresh (cn : Conn) : Prop where
  pc : cn.pc = .notStarted
  open_ : cn.serverClosed = false
  rej : cn.rejected = false
  ref : cn.refused = false
  cbs : cn.closeCbs = []
  map : cn.inMap = false
  st : cn.state = .idle
  started : cn.started = []

/-- per-connection invariant -/
structure CInv (cfg : Cfg) (cn : Conn) : Prop where
  /-- the close callback is the last thing the deferred function does: not called while the goroutine runs -/
  cb_running : cn.pc ≠ .notStarted → cn.pc ≠ .done → cn.closeCbs = []
  /-- a goroutine that has ended has called it once, if `OnCloseConnFunc` is set -/
  cb_done : cn.pc = .done → cn.closeCbs.length = (if cfg.onClose then 1 else 0)
  /-- without a goroutine it is called only where trackConn refuses the connection -/
  cb_notStarted : cn.pc = .notStarted → cn.closeCbs.length = (if cfg.onClose = true ∧ cn.refused = true then 1 else 0)
  /-- rejected by `OnAcceptConnFunc`: closed, never handed to trackConn, no goroutine -/
  rej : cn.rejected = true → cn.pc = .notStarted ∧ cn.refused = false ∧ cn.serverClosed = true
  /-- refused by trackConn(c, true) because the server has been shut down: closed, no goroutine -/
  ref : cn.refused = true → cn.pc = .notStarted ∧ cn.serverClosed = true
  /-- from the compare-and-swap idle -> busy to `state.Store(idle)` -/
  busy : InRequest cn = true → cn.state = .busy
  /-- what Shutdown does to a connection it marks: close the socket, delete it from `activeConnections` -/
  closedS : cn.state = .closedByShutdown → cn.serverClosed = true ∧ cn.inMap = false
  /-- while the goroutine uses the socket, only Shutdown closes it -/
  closedBy : cn.serverClosed = true → Active cn = true → cn.state = .closedByShutdown
  /-- in `activeConnections` only between trackConn(c, true) and trackConn(c, false) -/
  inmap : cn.inMap = true → Counted cn = true
  /-- a tracked connection leaves the map closed: Shutdown closes what it deletes, the deferred function calls
  conn.Close() before trackConn(c, false) -/
  notInMap : cn.pc ≠ .notStarted → cn.inMap = false → cn.serverClosed = true
  /-- conn.Close() comes first in the deferred function -/
  cleaned : Cleaned cn = true → cn.serverClosed = true
  /-- a request whose handler has started has its reply written, or its handler panicked, or it is the one in hand -/
  flight : ∀ r ∈ cn.started, r ∈ cn.replied ∨ r ∈ cn.panicked ∨ (∃ k, cn.pc = .handling r k) ∨ cn.pc = .writing r

theorem Fresh.cinv {cfg : Cfg} {cn : Conn} (h : Fresh cn) : CInv cfg cn where
  cb_running := fun h1 _ => absurd h.pc h1
  cb_done := fun h1 => nomatch h.pc.symm.trans h1
  cb_notStarted := fun _ => by simp [h.cbs, h.ref]
  rej := fun h1 => nomatch h.rej.symm.trans h1
  ref := fun h1 => nomatch h.ref.symm.trans h1
  busy := fun h1 => by simp [InRequest, h.pc] at h1
  closedS := fun h1 => nomatch h.st.symm.trans h1
  closedBy := fun h1 => nomatch h.open_.symm.trans h1
  inmap := fun h1 => nomatch h.map.symm.trans h1
  notInMap := fun h1 => absurd h.pc h1
  cleaned := fun h1 => by simp [Cleaned, h.pc] at h1
  flight := fun _ hr => nomatch h.started ▸ hr

/-- the socket is closed by its owner, outside the read loop: by the goroutine in its deferred function, by the
accept loop when the context is cancelled -/
theorem CInv.setClosed {cfg : Cfg} {cn : Conn} (h : CInv cfg cn) (ha : Active cn = false) :
    CInv cfg { cn with serverClosed := true } :=
  { h with
    rej := fun e => ⟨(h.rej e).1, (h.rej e).2.1, rfl⟩
    ref := fun e => ⟨(h.ref e).1, rfl⟩
    closedS := fun e => ⟨rfl, (h.closedS e).2⟩
    closedBy := fun _ e => nomatch ha.symm.trans e
    notInMap := fun _ _ => rfl
    cleaned := fun _ => rfl }

/-- `state.Store` by the goroutine, while nobody has closed its socket -/
theorem CInv.setState {cfg : Cfg} {cn : Conn} (h : CInv cfg cn) (st : CState) (hst : st ≠ .closedByShutdown)
    (hb : InRequest cn = true → st = .busy) (hsc : cn.serverClosed = false) : CInv cfg { cn with state := st } :=
  { h with busy := hb, closedS := fun e => absurd e hst, closedBy := fun hs => nomatch hsc.symm.trans hs }

theorem CInv.recordOutcome {cfg : Cfg} {cn : Conn} (h : CInv cfg cn) (pa re : List Nat) (hpa : ∀ r ∈ cn.panicked, r ∈ pa)
    (hre : ∀ r ∈ cn.replied, r ∈ re) : CInv cfg { cn with panicked := pa, replied := re } :=
  { h with flight := fun r hr => (h.flight r hr).imp (hre r) (·.imp (hpa r) id) }

/-- trackConn(c, false), after conn.Close() -/
theorem CInv.setUnmapped {cfg : Cfg} {cn : Conn} (h : CInv cfg cn) (hsc : cn.serverClosed = true) :
    CInv cfg { cn with inMap := false } :=
  { h with closedS := fun e => ⟨(h.closedS e).1, rfl⟩, inmap := nofun, notInMap := fun _ _ => hsc }

/-- Shutdown closes an idle connection it finds in the map; `busy` rules out that the goroutine is in a request -/
theorem CInv.closedByShutdown {cfg : Cfg} {cn : Conn} (h : CInv cfg cn) (hpc : cn.pc ≠ .notStarted)
    (hidle : cn.state = .idle) :
    CInv cfg { cn with state := .closedByShutdown, serverClosed := true, inMap := false } :=
  { h with
    rej := fun e => absurd (h.rej e).1 hpc
    ref := fun e => absurd (h.ref e).1 hpc
    busy := fun e => by have := h.busy e; rw [hidle] at this; cases this
    closedS := fun _ => ⟨rfl, rfl⟩
    closedBy := fun _ _ => rfl
    inmap := nofun
    notInMap := fun _ _ => rfl
    cleaned := fun _ => rfl }

/- what the accept loop does to the connection it holds: close it (context cancelled), reject it, refuse it
(trackConn after Shutdown, with the close callback), or track it -/

theorem Fresh.cinv_closed {cfg : Cfg} {cn : Conn} (h : Fresh cn) : CInv cfg { cn with serverClosed := true } :=
  h.cinv.setClosed (by simp [Active, h.pc])

theorem Fresh.cinv_rejected {cfg : Cfg} {cn : Conn} (h : Fresh cn) :
    CInv cfg { cn with serverClosed := true, rejected := true } :=
  { h.cinv_closed (cfg := cfg) with rej := fun _ => ⟨h.pc, h.ref, rfl⟩ }

theorem Fresh.cinv_refused {cfg : Cfg} {cn : Conn} (h : Fresh cn) :
    CInv cfg { cn with serverClosed := true, refused := true,
                       closeCbs := cn.closeCbs ++ (if cfg.onClose then [true] else []) } :=
  { h.cinv_closed (cfg := cfg) with
    cb_running := fun e => absurd h.pc e
    cb_done := fun e => nomatch h.pc.symm.trans e
    cb_notStarted := fun _ => by simp [h.cbs]; split <;> rfl
    rej := fun e => nomatch h.rej.symm.trans e
    ref := fun _ => ⟨h.pc, rfl⟩ }

theorem Fresh.cinv_tracked {cfg : Cfg} {cn : Conn} (h : Fresh cn) : CInv cfg { cn with inMap := true, pc := .loopTop } where
  cb_running := fun _ _ => h.cbs
  cb_done := nofun
  cb_notStarted := nofun
  rej := fun e => nomatch h.rej.symm.trans e
  ref := fun e => nomatch h.ref.symm.trans e
  busy := nofun
  closedS := fun e => nomatch h.st.symm.trans e
  closedBy := fun e => nomatch h.open_.symm.trans e
  inmap := fun _ => rfl
  notInMap := nofun
  cleaned := nofun
  flight := fun _ hr => nomatch h.started ▸ hr

theorem CInv.started_of_inMap {cfg : Cfg} {cn : Conn} (h : CInv cfg cn) (hm : cn.inMap = true) : cn.pc ≠ .notStarted :=
  fun e => by have := h.inmap hm; simp [Counted, e] at this

theorem active_of_inRequest {cn : Conn} : InRequest cn = true → Active cn = true := by
  unfold InRequest Active; cases cn.pc <;> simp

/-- nobody closes a busy connection: Shutdown takes only idle ones -/
theorem CInv.open_of_inRequest {cfg : Cfg} {cn : Conn} (h : CInv cfg cn) (hr : InRequest cn = true) :
    cn.serverClosed = false :=
  Bool.eq_false_iff.2 fun hs => by
    have := h.closedBy hs (active_of_inRequest hr)
    rw [h.busy hr] at this; cases this

/-- outside a request nothing is in flight: every request whose handler has started is settled -/
theorem CInv.settled {cfg : Cfg} {cn : Conn} (h : CInv cfg cn) (hn : InRequest cn = false) {r : Nat} (hr : r ∈ cn.started) :
    r ∈ cn.replied ∨ r ∈ cn.panicked := by
  rcases h.flight r hr with x | x | ⟨k, x⟩ | x
  · exact .inl x
  · exact .inr x
  all_goals simp [InRequest, x] at hn

theorem CInv.closeCbs_length {cfg : Cfg} {cn : Conn} (h : CInv cfg cn) :
    cn.closeCbs.length = if cfg.onClose = true ∧ (cn.pc = .done ∨ cn.refused = true) then 1 else 0 := by
  by_cases h0 : cn.pc = .notStarted
  · rw [h.cb_notStarted h0]; simp [h0]
  · have hr : cn.refused = false := Bool.eq_false_iff.2 fun hr => h0 (h.ref hr).1
    by_cases h1 : cn.pc = .done
    · rw [h.cb_done h1]; simp [h1]
    · rw [h.cb_running h0 h1]; simp [h1, hr]

theorem connTrans_notStarted (cfg : Cfg) (ctxCancelled muFree isShutdown : Bool) (cn : Conn) (h : cn.pc = .notStarted) :
    connTrans cfg ctxCancelled muFree isShutdown cn = (cn, 0) := by simp [connTrans, h]

theorem connTrans_pc (cfg : Cfg) (a b d : Bool) (cn : Conn) (h : cn.pc ≠ .notStarted) :
    (connTrans cfg a b d cn).1.pc ≠ .notStarted := by
  fun_cases connTrans cfg a b d cn <;> first | exact h | nofun

theorem connTrans_counted (cfg : Cfg) (ctxCancelled muFree isShutdown : Bool) (cn : Conn) :
    (connTrans cfg ctxCancelled muFree isShutdown cn).2 =
      (if Counted (connTrans cfg ctxCancelled muFree isShutdown cn).1 then (1 : Int) else 0) -
        (if Counted cn then 1 else 0) := by
  fun_cases connTrans cfg ctxCancelled muFree isShutdown cn <;> simp [Counted, *]

/-- the goroutine removes its connection from the map only in trackConn(c, false), which needs the mutex -/
theorem connTrans_inMap (cfg : Cfg) (ctxCancelled muFree isShutdown : Bool) (cn : Conn) :
    ((connTrans cfg ctxCancelled muFree isShutdown cn).1.inMap = true → cn.inMap = true) ∧
    (cn.inMap = true → (connTrans cfg ctxCancelled muFree isShutdown cn).1.inMap = true ∨ muFree = true) := by
  fun_cases connTrans cfg ctxCancelled muFree isShutdown cn <;> first
    | exact ⟨id, .inl⟩
    | exact ⟨nofun, fun _ => .inr (by simp_all)⟩

/-- with the program counter written out, the guards of the clauses reduce by evaluation -/
theorem CInv.atPc {cfg : Cfg} {cn : Conn} {p : GPc} (h : CInv cfg cn) (hp : cn.pc = p) : CInv cfg { cn with pc := p } := by
  subst hp; exact h

/-- The program counter moves between two places of a running goroutine. `hok`, checked by evaluation where both
places are written out: a guard that becomes true (`InRequest`, `Cleaned`; for `inmap`, `Counted` becoming false)
guards a clause whose conclusion holds already. `hfl`: the request in flight, if any, stays in flight or is done. -/
theorem CInv.move {cfg : Cfg} {cn : Conn} (h : CInv cfg cn) (p : GPc)
    (hok : decide ((cn.pc ≠ .notStarted ∧ cn.pc ≠ .done ∧ p ≠ .notStarted ∧ p ≠ .done) ∧
      (InRequest { cn with pc := p } = true → InRequest cn = true ∨ cn.state = .busy) ∧
      (Active { cn with pc := p } = true → Active cn = true) ∧
      (Counted { cn with pc := p } = true ∨ cn.inMap = false) ∧
      (Cleaned { cn with pc := p } = true → Cleaned cn = true ∨ cn.serverClosed = true)) = true)
    (hfl : match cn.pc with
      | .handling r _ | .writing r => r ∈ cn.replied ∨ r ∈ cn.panicked ∨ (∃ k, p = .handling r k) ∨ p = .writing r
      | _ => True) :
    CInv cfg { cn with pc := p } :=
  have ⟨⟨n0, d0, n1, d1⟩, hreq, hact, hcnt, hcl⟩ := of_decide_eq_true hok
  { cb_running := fun _ _ => h.cb_running n0 d0
    cb_done := fun e => absurd e d1
    cb_notStarted := fun e => absurd e n1
    rej := fun e => absurd (h.rej e).1 n0
    ref := fun e => absurd (h.ref e).1 n0
    busy := fun e => (hreq e).elim h.busy id
    closedS := h.closedS
    closedBy := fun hs ha => h.closedBy hs (hact ha)
    inmap := fun e => hcnt.resolve_right fun e' => nomatch e'.symm.trans e
    notInMap := fun _ => h.notInMap n0
    cleaned := fun e => (hcl e).elim h.cleaned id
    flight := fun r hr => by
      rcases h.flight r hr with x | x | ⟨k, e⟩ | e
      · exact .inl x
      · exact .inr (.inl x)
      all_goals rw [e] at hfl; exact hfl }

/-- the compare-and-swap has seen `idle`, so by `closedBy` the socket is open and stays so while the state is `busy` -/
theorem CInv.startHandler {cfg : Cfg} {cn : Conn} {r : Nat} {k : Kind} (h : CInv cfg { cn with pc := .gotRequest r k })
    (hidle : cn.state = .idle) :
    CInv cfg { cn with state := .busy, started := cn.started ++ [r], pc := .handling r k } :=
  have hsc := Bool.eq_false_iff.2 fun hs => nomatch (h.closedBy hs rfl).symm.trans hidle
  have h2 := (h.setState .busy nofun nofun hsc).move (.handling r k) rfl trivial
  { h2 with
    flight := fun r' hr => (List.mem_append.1 hr).elim (h2.flight r')
      fun e => .inr (.inr (.inl ⟨k, List.mem_singleton.1 e ▸ rfl⟩)) }

/-- the close callback, then the goroutine ends -/
theorem CInv.finish {cfg : Cfg} {cn : Conn} (h : CInv cfg { cn with pc := .cleanupCb }) (cbs : List Bool)
    (hcb : cbs.length = if cfg.onClose then 1 else 0) : CInv cfg { cn with closeCbs := cbs, pc := .done } where
  cb_running := fun _ e => absurd rfl e
  cb_done := fun _ => hcb
  cb_notStarted := nofun
  rej := fun e => nomatch (h.rej e).1
  ref := fun e => nomatch (h.ref e).1
  busy := nofun
  closedS := h.closedS
  closedBy := fun _ => nofun
  inmap := fun e => nomatch h.inmap e
  notInMap := fun _ => h.notInMap nofun
  cleaned := fun _ => h.cleaned rfl
  flight := fun r hr => (h.flight r hr).imp id (·.imp id nofun)

theorem cinv_connTrans (cfg : Cfg) (ctxCancelled muFree isShutdown : Bool) (cn : Conn) (h : CInv cfg cn) :
    CInv cfg (connTrans cfg ctxCancelled muFree isShutdown cn).1 := by
  -- the goals are the branches of `connTrans` in the order of its text
  fun_cases connTrans cfg ctxCancelled muFree isShutdown cn
  all_goals have h0 := h.atPc ‹cn.pc = _›
  · exact h
  -- loopTop
  · exact h0.move _ rfl trivial
  · exact h0.move _ rfl trivial
  -- `CInv` does not read `inbox`: the proof for the record with the old inbox is one for the new, retyped by `{ · with }`
  · exact { h0.move (.gotRequest _ _) rfl trivial with }
  · exact h0.move _ rfl trivial
  · exact h
  -- gotRequest
  · exact h0.startHandler ‹_›
  · exact h0.move _ rfl trivial
  -- handling
  · exact (h0.recordOutcome _ _ (fun _ => List.mem_append_left _) fun _ => id).move _ rfl
      (.inr (.inl (List.mem_append_right _ (List.mem_singleton_self _))))
  · exact h0.move _ rfl (.inr (.inr (.inr rfl)))
  -- writing; the write error cannot happen: nobody closes a busy connection
  · exact nomatch (h0.open_of_inRequest rfl).symm.trans ‹cn.serverClosed = true›
  · exact (h0.recordOutcome _ _ (fun _ => id) fun _ => List.mem_append_left _).move _ rfl
      (.inl (List.mem_append_right _ (List.mem_singleton_self _)))
  -- written
  · exact (h0.move .loopTop rfl trivial).setState .idle nofun nofun (h0.open_of_inRequest rfl)
  -- cleanupClose, cleanupUntrack, cleanupCb, done
  · exact (h0.setClosed rfl).move _ rfl trivial
  · exact h
  · exact (h0.setUnmapped (h0.cleaned rfl)).move _ rfl trivial
  · exact h0.finish _ (by rw [h0.cb_running nofun nofun]; split <;> rfl)
  · exact h

theorem countP_updC_notMem {l : List Nat} {c : Nat} (h : c ∉ l) (f : Nat → Conn) (v : Conn) (p : Conn → Bool) :
    l.countP (fun i => p (updC f c v i)) = l.countP (fun i => p (f i)) :=
  List.countP_congr fun x hx => by rw [updC_other _ _ _ _ fun e : x = c => h (e ▸ hx)]

/-- `c` occurs once in `l`: it is counted apart, and on the rest of the list the two functions agree -/
theorem countP_updC {l : List Nat} {c : Nat} (hnd : l.Nodup) (hc : c ∈ l) (f : Nat → Conn) (v : Conn) (p : Conn → Bool) :
    ((l.countP (fun i => p (updC f c v i)) : Nat) : Int) =
      (l.countP (fun i => p (f i)) : Nat) + ((if p v then (1 : Int) else 0) - (if p (f c) then 1 else 0)) := by
  have hp := List.perm_cons_erase hc
  rw [hp.countP_eq, hp.countP_eq, List.countP_cons, List.countP_cons, countP_updC_notMem hnd.not_mem_erase, updC_same]
  cases p v <;> cases p (f c) <;> simp <;> omega

theorem liveCount_setC {s : St} (hnd : s.ids.Nodup) {c : Nat} (hc : c ∈ s.ids) (v : Conn) :
    ((liveCount (s.setC c v) : Nat) : Int) =
      liveCount s + ((if Counted v then (1 : Int) else 0) - (if Counted (s.conns c) then 1 else 0)) :=
  countP_updC hnd hc s.conns v Counted

theorem liveCount_setC_notMem {s : St} {c : Nat} (hc : c ∉ s.ids) (v : Conn) : liveCount (s.setC c v) = liveCount s :=
  countP_updC_notMem hc s.conns v Counted

end Modbus.Lemmas.ServerLife
