import Modbus.Basic
/-
  Facts about the vocabulary of `Modbus/Basic.lean`: the `Res` monad, bytes and 16-bit words, `getD` on byte lists.
-/
namespace Modbus

theorem Res.bind_eq_ok {ε α β : Type} {x : Res ε α} {f : α → Res ε β} {b : β} :
    x.bind f = .ok b ↔ ∃ a, x = .ok a ∧ f a = .ok b := by
  cases x <;> simp [Res.bind]

namespace Res
variable {ε α : Type} {x : Res ε α}

theorem isOk_iff : x.isOk = true ↔ ∃ a, x = .ok a := by cases x <;> simp [isOk]

theorem isErr_iff : x.isErr = true ↔ ∃ e, x = .err e := by cases x <;> simp [isErr]

end Res

end Modbus

namespace Modbus.Lemmas

@[simp] theorem be16_hi_lo (v : UInt16) : be16 (hi8 v) (lo8 v) = v := by
  unfold be16 hi8 lo8
  apply UInt16.toNat_inj.1
  have := v.toNat_lt
  simp [UInt8.toNat_ofNat', UInt16.toNat_ofNat']
  omega

theorem u16_ofNat_toNat (n : Nat) (h : n < 65536) : (UInt16.ofNat n).toNat = n := UInt16.toNat_ofNat_of_lt' h

theorem u8_ofNat_toNat (n : Nat) (h : n < 256) : (UInt8.ofNat n).toNat = n := UInt8.toNat_ofNat_of_lt' h

theorem le16_eq_iff (l h : UInt8) (c : UInt16) : le16 l h = c ↔ (l = lo8 c ∧ h = hi8 c) := by
  unfold le16 lo8 hi8
  have hl := l.toNat_lt
  have hh := h.toNat_lt
  have hc := c.toNat_lt
  constructor
  · intro e
    subst e
    constructor
    · apply UInt8.toNat_inj.1
      simp
    · apply UInt8.toNat_inj.1
      simp
      omega
  · rintro ⟨e1, e2⟩
    subst e1 e2
    apply UInt16.toNat_inj.1
    simp
    omega

theorem not_lt_three {x : UInt16} : ¬ x < 3 ↔ 3 ≤ x.toNat := by
  rw [UInt16.lt_iff_toNat_lt]
  exact Nat.not_lt

theorem getD_drop (v : Bytes) (k i : Nat) : (v.drop k).getD i 0 = v.getD (k + i) 0 := by
  simp [List.getD_eq_getElem?_getD, List.getElem?_drop]

theorem getD_append_left (p q : Bytes) {i : Nat} (h : i < p.length) : (p ++ q).getD i 0 = p.getD i 0 := by
  rw [List.getD_eq_getElem?_getD, List.getD_eq_getElem?_getD, List.getElem?_append_left h]

/-- `x &&& 128` is bit 7 of `x` alone, and bit 7 of a byte is set from 128 on -/
theorem and_128_eq_zero (x : UInt8) : x &&& 128 = 0 ↔ x.toNat < 128 := by
  rw [← UInt8.toBitVec_inj, UInt8.toBitVec_and]
  show x.toBitVec &&& .twoPow 8 7 = 0#8 ↔ x.toBitVec.toNat < 128
  rw [BitVec.and_twoPow, BitVec.getLsbD_succ_last]
  by_cases h : 2 ^ 7 ≤ x.toBitVec.toNat
  · rw [decide_eq_true h, if_pos rfl]
    exact iff_of_false (by decide) (Nat.not_lt.2 h)
  · rw [decide_eq_false h, if_neg Bool.false_ne_true]
    exact iff_of_true rfl (Nat.not_le.1 h)

end Modbus.Lemmas
