import ModbusProofs.Lemmas.Request
import ModbusProofs.Lemmas.Crc
/-
  Encode → parse round trips of request values.
  The contracts of `Request.lean` say that what a parser accepts is made of the frame's bytes (`AcceptedTCP`,
  `AcceptedRTU`); here the converse: a frame of the right length whose bytes are those of a request value is
  accepted as that value, and the encoders produce such frames.
-/
namespace Modbus.Lemmas
open Modbus.Model

/-! A frame that spells a request is parsed as that request. Each proof walks the parser with `E := False`: every
error leaf is refuted by the hypothesis that makes its guard pass. -/

section
variable {v sp : Bytes} {tid : UInt16} {u : UInt8}

theorem complete_parseReadReqTCP {fc : UInt8} {a q : UInt16} (h : AcceptedTCP fc v (tid, .read fc u a q))
    (hm : MBAPrest v) (hl : v.length = 12) : parseReadReqTCP fc 125 ⟨v, sp⟩ = .ok (tid, .read fc u a q) := by
  simp only [fields, Nat.reduceAdd] at h
  obtain ⟨rfl, rfl, h7, rfl, rfl, hq⟩ := h
  refine Run.eq_ok ?_
  unfold parseReadReqTCP; dsimp only
  refine Run.mbap (fun h => h ⟨by omega, hm⟩) fun _ _ => ?_; run_walk
  · omega
  · exact absurd h7 ‹_›
  · exact absurd hq ‹_›
  · rfl

theorem complete_parseWCoilReqTCP {a : UInt16} {st : Bool} (h : AcceptedTCP 5 v (tid, .wcoil u a st))
    (hm : MBAPrest v) (hl : v.length = 12) : parseWCoilReqTCP ⟨v, sp⟩ = .ok (tid, .wcoil u a st) := by
  simp only [fields, Nat.reduceAdd] at h
  obtain ⟨rfl, rfl, h7, rfl, hs⟩ := h
  refine Run.eq_ok ?_
  unfold parseWCoilReqTCP; dsimp only
  refine Run.mbap (fun h => h ⟨by omega, hm⟩) fun _ _ => ?_; run_walk
  · omega
  · exact absurd h7 ‹_›
  · rename_i hg
    rcases hs with ⟨e, -⟩ | ⟨e, -⟩
    · exact hg.1 e
    · exact hg.2 e
  · rcases hs with ⟨e, rfl⟩ | ⟨e, rfl⟩ <;> rw [e] <;> rfl

theorem complete_parseWRegReqTCP {a : UInt16} {d0 d1 : UInt8} (h : AcceptedTCP 6 v (tid, .wreg u a d0 d1))
    (hm : MBAPrest v) (hl : v.length = 12) : parseWRegReqTCP ⟨v, sp⟩ = .ok (tid, .wreg u a d0 d1) := by
  simp only [fields, Nat.reduceAdd] at h
  obtain ⟨rfl, rfl, h7, rfl, rfl, rfl⟩ := h
  refine Run.eq_ok ?_
  unfold parseWRegReqTCP; dsimp only
  refine Run.mbap (fun h => h ⟨by omega, hm⟩) fun _ _ => ?_; run_walk
  · omega
  · exact absurd h7 ‹_›
  · rfl

theorem complete_parseWCoilsReqTCP {a c : UInt16} {d : Bytes} (h : AcceptedTCP 15 v (tid, .wcoils u a c d))
    (hm : MBAPrest v) (hl : v.length = 13 + d.length) : parseWCoilsReqTCP ⟨v, sp⟩ = .ok (tid, .wcoils u a c d) := by
  simp only [fields, Nat.reduceAdd] at h
  obtain ⟨rfl, rfl, h7, rfl, rfl, hc1, hc2, rfl, hdl⟩ := h
  -- `hdl` is cleared once used: left in the context it is one more equation for every `omega` of the walk to eliminate
  rw [hdl] at hl; clear hdl
  refine Run.eq_ok ?_
  unfold parseWCoilsReqTCP; dsimp only
  refine Run.mbap (fun h => h ⟨by omega, hm⟩) fun _ _ => ?_; run_walk
  · omega
  · exact absurd h7 ‹_›
  · exact ‹¬(_ ∧ _)› ⟨hc1, hc2⟩
  · omega
  · rfl

theorem complete_parseWRegsReqTCP {a c : UInt16} {d : Bytes} (h : AcceptedTCP 16 v (tid, .wregs u a c d))
    (hm : MBAPrest v) (hl : v.length = 13 + d.length) : parseWRegsReqTCP ⟨v, sp⟩ = .ok (tid, .wregs u a c d) := by
  simp only [fields, Nat.reduceAdd] at h
  obtain ⟨rfl, rfl, h7, rfl, rfl, hc1, hc2, rfl, hdl⟩ := h
  rw [hdl] at hl; clear hdl
  refine Run.eq_ok ?_
  unfold parseWRegsReqTCP; dsimp only
  refine Run.mbap (fun h => h ⟨by omega, hm⟩) fun _ _ => ?_; run_walk
  · omega
  · exact absurd h7 ‹_›
  · exact ‹¬(_ ∧ _)› ⟨hc1, hc2⟩
  · exact absurd hl ‹_›
  · rfl

theorem complete_parseSidReqTCP (h : AcceptedTCP 17 v (tid, .sid u)) (hm : MBAPrest v) (hl : v.length = 8) :
    parseSidReqTCP ⟨v, sp⟩ = .ok (tid, .sid u) := by
  simp only [fields] at h
  obtain ⟨rfl, rfl, h7, -⟩ := h
  refine Run.eq_ok ?_
  unfold parseSidReqTCP; dsimp only
  refine Run.mbap (fun h => h ⟨by omega, hm⟩) fun _ _ => ?_; run_walk
  · omega
  · exact absurd h7 ‹_›
  · rfl

theorem complete_parseRWReqTCP {ra rq wa wq : UInt16} {d : Bytes} (h : AcceptedTCP 23 v (tid, .rw u ra rq wa wq d))
    (hm : MBAPrest v) (hl : v.length = 17 + d.length) :
    parseRWReqTCP ⟨v, sp⟩ = .ok (tid, .rw u ra rq wa wq d) := by
  simp only [fields, Nat.reduceAdd] at h
  obtain ⟨rfl, rfl, h7, rfl, rfl, hr1, hr2, rfl, rfl, hw1, hw2, rfl, hdl⟩ := h
  rw [hdl] at hl; clear hdl
  refine Run.eq_ok ?_
  unfold parseRWReqTCP; dsimp only
  refine Run.mbap (fun h => h ⟨by omega, hm⟩) fun _ _ => ?_; run_walk
  · omega
  · exact absurd h7 ‹_›
  · exact ‹¬(_ ∧ _)› ⟨hr1, hr2⟩
  · exact ‹¬(_ ∧ _)› ⟨hw1, hw2⟩
  · omega
  · rfl

/-! An RTU frame holds its PDU bytes alone or followed by the two CRC bytes: the `…RTU` parsers take both. -/

theorem complete_parseReadReqRTU {fc : UInt8} {a q : UInt16} (h : AcceptedRTU fc v (.read fc u a q))
    (hl : v.length = 6 ∨ v.length = 6 + 2) : parseReadReqRTU fc 125 ⟨v, sp⟩ = .ok (.read fc u a q) := by
  simp only [fields, Nat.reduceAdd] at h
  obtain ⟨rfl, h1, rfl, rfl, hq⟩ := h
  refine Run.eq_ok ?_
  unfold parseReadReqRTU; dsimp only; run_walk
  · omega
  · exact absurd h1 ‹_›
  · exact absurd hq ‹_›
  · rfl

theorem complete_parseWCoilReqRTU {a : UInt16} {st : Bool} (h : AcceptedRTU 5 v (.wcoil u a st))
    (hl : v.length = 6 ∨ v.length = 6 + 2) : parseWCoilReqRTU ⟨v, sp⟩ = .ok (.wcoil u a st) := by
  simp only [fields, Nat.reduceAdd] at h
  obtain ⟨rfl, h1, rfl, hs⟩ := h
  refine Run.eq_ok ?_
  unfold parseWCoilReqRTU; dsimp only; run_walk
  · omega
  · exact absurd h1 ‹_›
  · rename_i hg
    rcases hs with ⟨e, -⟩ | ⟨e, -⟩
    · exact hg.1 e
    · exact hg.2 e
  · rcases hs with ⟨e, rfl⟩ | ⟨e, rfl⟩ <;> rw [e] <;> rfl

theorem complete_parseWRegReqRTU {a : UInt16} {d0 d1 : UInt8} (h : AcceptedRTU 6 v (.wreg u a d0 d1))
    (hl : v.length = 6 ∨ v.length = 6 + 2) : parseWRegReqRTU ⟨v, sp⟩ = .ok (.wreg u a d0 d1) := by
  simp only [fields, Nat.reduceAdd] at h
  obtain ⟨rfl, h1, rfl, rfl, rfl⟩ := h
  refine Run.eq_ok ?_
  unfold parseWRegReqRTU; dsimp only; run_walk
  · omega
  · exact absurd h1 ‹_›
  · rfl

theorem complete_parseWCoilsReqRTU {a c : UInt16} {d : Bytes} (h : AcceptedRTU 15 v (.wcoils u a c d))
    (hl : v.length = 7 + d.length ∨ v.length = 7 + d.length + 2) :
    parseWCoilsReqRTU ⟨v, sp⟩ = .ok (.wcoils u a c d) := by
  simp only [fields, Nat.reduceAdd] at h
  obtain ⟨rfl, h1, rfl, rfl, hc1, hc2, rfl, hdl⟩ := h
  rw [hdl] at hl; clear hdl
  refine Run.eq_ok ?_
  unfold parseWCoilsReqRTU; dsimp only; run_walk
  · omega
  · exact absurd h1 ‹_›
  · exact ‹¬(_ ∧ _)› ⟨hc1, hc2⟩
  · omega
  · rfl

/-- `hd`: the RTU parsers of FC16 and FC23 refuse fewer than 8 (12) bytes before they look at the byte count, so a frame
with an empty payload is refused although its lengths agree; a limit of the code, not of the protocol. -/
theorem complete_parseWRegsReqRTU {a c : UInt16} {d : Bytes} (h : AcceptedRTU 16 v (.wregs u a c d)) (hd : 1 ≤ d.length)
    (hl : v.length = 7 + d.length ∨ v.length = 7 + d.length + 2) :
    parseWRegsReqRTU ⟨v, sp⟩ = .ok (.wregs u a c d) := by
  simp only [fields, Nat.reduceAdd] at h
  obtain ⟨rfl, h1, rfl, rfl, hc1, hc2, rfl, hdl⟩ := h
  rw [hdl] at hl hd; clear hdl
  refine Run.eq_ok ?_
  unfold parseWRegsReqRTU; dsimp only; run_walk
  · omega
  · exact absurd h1 ‹_›
  · exact ‹¬(_ ∧ _)› ⟨hc1, hc2⟩
  · omega
  · rfl

theorem complete_parseSidReqRTU (h : AcceptedRTU 17 v (.sid u)) (hl : v.length = 2 ∨ v.length = 2 + 2) :
    parseSidReqRTU ⟨v, sp⟩ = .ok (.sid u) := by
  simp only [fields] at h
  obtain ⟨rfl, h1, -⟩ := h
  refine Run.eq_ok ?_
  unfold parseSidReqRTU; dsimp only; run_walk
  · omega
  · exact absurd h1 ‹_›
  · rfl

theorem complete_parseRWReqRTU {ra rq wa wq : UInt16} {d : Bytes} (h : AcceptedRTU 23 v (.rw u ra rq wa wq d))
    (hd : 1 ≤ d.length) (hl : v.length = 11 + d.length ∨ v.length = 11 + d.length + 2) :
    parseRWReqRTU ⟨v, sp⟩ = .ok (.rw u ra rq wa wq d) := by
  simp only [fields, Nat.reduceAdd] at h
  obtain ⟨rfl, h1, rfl, rfl, hr1, hr2, rfl, rfl, hw1, hw2, rfl, hdl⟩ := h
  rw [hdl] at hl hd; clear hdl
  refine Run.eq_ok ?_
  unfold parseRWReqRTU; dsimp only; run_walk
  · omega
  · exact absurd h1 ‹_›
  · exact ‹¬(_ ∧ _)› ⟨hr1, hr2⟩
  · exact ‹¬(_ ∧ _)› ⟨hw1, hw2⟩
  · omega
  · rfl

end

/-- the conditions under which the parsers return a request value unchanged
(the parsers' own limits; for FC1/FC2 that is 125, not the specification's 2000: KF-C09) -/
def Req.ParserLegal : Req → Prop
  | .read fc _ _ q => (fc = 1 ∨ fc = 2 ∨ fc = 3 ∨ fc = 4) ∧ q ≥ 1 ∧ q ≤ 125
  | .wcoil .. => True
  | .wreg .. => True
  | .wcoils _ _ c d => c ≥ 1 ∧ c ≤ 1968 ∧ d.length ≤ 255
  | .wregs _ _ c d => c ≥ 1 ∧ c ≤ 123 ∧ d.length ≤ 255 ∧ 1 ≤ d.length
  | .sid _ => True
  | .rw _ _ rq _ wq d => rq ≥ 1 ∧ rq ≤ 125 ∧ wq ≥ 1 ∧ wq ≤ 121 ∧ d.length ≤ 255 ∧ 1 ≤ d.length

theorem pdu_head (r : Req) : ∃ t, r.pdu = r.unit :: r.fc :: t := by
  cases r <;> exact ⟨_, rfl⟩

theorem pdu_fc (r : Req) : r.pdu.getD 1 0 = r.fc := by
  obtain ⟨t, ht⟩ := pdu_head r; rw [ht]; rfl

theorem pdu_len_ge (r : Req) : 2 ≤ r.pdu.length := by
  obtain ⟨t, ht⟩ := pdu_head r; rw [ht]; exact Nat.le_add_left 2 _

theorem mbapRest_enc (tid : UInt16) (p : Bytes) (hn : 1 ≤ p.length ∧ p.length < 65536) :
    MBAPrest (mbap tid (UInt16.ofNat p.length) ++ p) := by
  have hl := u16_ofNat_toNat p.length hn.2
  refine ⟨rfl, rfl, ?_, ?_⟩
  · show be16 (hi8 _) (lo8 _) ≠ 0
    rw [be16_hi_lo]
    intro h
    rw [h] at hl
    exact absurd hl (by have : (0 : UInt16).toNat = 0 := rfl; omega)
  · show _ = 6 + (be16 (hi8 _) (lo8 _)).toNat
    rw [be16_hi_lo, hl]; simp [mbap, put16]; omega

/-- the payload of FC15/16/23 behind its byte count, as `FieldsOf` reads it back -/
theorem payload_enc (d t : Bytes) (h : d.length ≤ 255) :
    d = (d ++ t).take (UInt8.ofNat d.length).toNat ∧ d.length = (UInt8.ofNat d.length).toNat := by
  rw [u8_ofNat_toNat _ (by omega), List.take_left' rfl]
  exact ⟨rfl, rfl⟩

/-- The encoders produce frames that spell the value, in both framings at once: `FieldsOf` reads the PDU behind the
unit id, whatever follows it (`t`: nothing, or the CRC). After the `simp only` every field is `be16 (hi8 x) (lo8 x) = x`;
left over are the ranges (from `h`) and the payload. -/
theorem fieldsOf_enc (r : Req) (h : Req.ParserLegal r) (t : Bytes) : FieldsOf (r.pdu.drop 1 ++ t) r := by
  cases r <;> simp only [FieldsOf, Req.pdu, put16, List.cons_append, List.nil_append, List.drop_succ_cons,
    List.drop_zero, List.getD_cons_succ, List.getD_cons_zero, be16_hi_lo, true_and]
  case read => exact h.2
  case wcoil u a s => cases s <;> decide
  case wcoils u a c d => exact ⟨h.1, h.2.1, payload_enc d t h.2.2⟩
  case wregs u a c d => exact ⟨h.1, h.2.1, payload_enc d t h.2.2.1⟩
  case rw u ra rq wa wq d => exact ⟨h.1, h.2.1, h.2.2.1, h.2.2.2.1, payload_enc d t h.2.2.2.2.1⟩

theorem acceptedTCP_enc (tid : UInt16) (r : Req) (h : Req.ParserLegal r) : AcceptedTCP r.fc (r.bytesTCP tid) (tid, r) := by
  obtain ⟨p, hp⟩ := pdu_head r
  have hf := fieldsOf_enc r h []
  rw [List.append_nil] at hf
  exact ⟨(be16_hi_lo tid).symm, by rw [Req.bytesTCP, hp]; rfl, rfl, by rw [Req.bytesTCP, hp]; rfl, hf⟩

theorem acceptedRTU_enc (r : Req) (h : Req.ParserLegal r) (t : Bytes) : AcceptedRTU r.fc (r.pdu ++ t) r := by
  obtain ⟨p, hp⟩ := pdu_head r
  have hf := fieldsOf_enc r h t
  rw [hp] at hf ⊢
  exact ⟨rfl, rfl, rfl, hf⟩

theorem rt_tcp_fc (tid : UInt16) (r : Req) (h : Req.ParserLegal r) (sp : Bytes) :
    parseReqTCPfc r.fc ⟨r.bytesTCP tid, sp⟩ = .ok (tid, r) := by
  have ha := acceptedTCP_enc tid r h
  have hm : MBAPrest (r.bytesTCP tid) := mbapRest_enc tid r.pdu (by
    cases r <;>
      simp only [Req.pdu, put16, Req.ParserLegal, List.length_append, List.length_cons, List.length_nil] at h ⊢ <;> omega)
  -- the length of an encoded frame with payload `d` computes to `d.length + 13` (`+ 17`): hence `Nat.add_comm`
  cases r with
  | read fc u a q => rcases h.1 with rfl | rfl | rfl | rfl <;> exact complete_parseReadReqTCP ha hm rfl
  | wcoil u a s => exact complete_parseWCoilReqTCP ha hm rfl
  | wreg u a d0 d1 => exact complete_parseWRegReqTCP ha hm rfl
  | wcoils u a c d => exact complete_parseWCoilsReqTCP ha hm (Nat.add_comm d.length 13)
  | wregs u a c d => exact complete_parseWRegsReqTCP ha hm (Nat.add_comm d.length 13)
  | sid u => exact complete_parseSidReqTCP ha hm rfl
  | rw u ra rq wa wq d => exact complete_parseRWReqTCP ha hm (Nat.add_comm d.length 17)

theorem rt_rtu_fc (r : Req) (h : Req.ParserLegal r) (t sp : Bytes) (ht : t.length = 0 ∨ t.length = 2) :
    parseReqRTUfc r.fc ⟨r.pdu ++ t, sp⟩ = .ok r := by
  have ha := acceptedRTU_enc r h t
  have hl : ∀ n, r.pdu.length = n → (r.pdu ++ t).length = n ∨ (r.pdu ++ t).length = n + 2 := by
    intro n hn; rw [List.length_append, hn]; omega
  cases r with
  | read fc u a q => rcases h.1 with rfl | rfl | rfl | rfl <;> exact complete_parseReadReqRTU ha (hl 6 rfl)
  | wcoil u a s => exact complete_parseWCoilReqRTU ha (hl 6 rfl)
  | wreg u a d0 d1 => exact complete_parseWRegReqRTU ha (hl 6 rfl)
  | wcoils u a c d => exact complete_parseWCoilsReqRTU ha (hl _ (Nat.add_comm d.length 7))
  | wregs u a c d => exact complete_parseWRegsReqRTU ha h.2.2.2 (hl _ (Nat.add_comm d.length 7))
  | sid u => exact complete_parseSidReqRTU ha (hl 2 rfl)
  | rw u ra rq wa wq d => exact complete_parseRWReqRTU ha h.2.2.2.2.2 (hl _ (Nat.add_comm d.length 11))

theorem rt_tcp (tid : UInt16) (r : Req) (h : Req.ParserLegal r) (sp : Bytes) :
    parseTCPRequest ⟨r.bytesTCP tid, sp⟩ = .ok (tid, r) := by
  have hl := pdu_len_ge r
  have hfc : (r.bytesTCP tid).getD 7 0 = r.fc := by
    rw [← pdu_fc r]; exact getD_drop (r.bytesTCP tid) 6 1 ▸ rfl
  rw [parseTCPRequest_eq (by simp [Req.bytesTCP, mbap, put16]; omega), hfc]
  exact rt_tcp_fc tid r h sp

theorem rt_rtu (r : Req) (h : Req.ParserLegal r) (sp : Bytes) :
    parseRTURequest ⟨r.bytesRTU, sp⟩ = .ok r := by
  have hl := pdu_len_ge r
  have hfc : r.bytesRTU.getD 1 0 = r.fc := (getD_append_left r.pdu _ (by omega)).trans (pdu_fc r)
  rw [parseRTURequest_eq (by simp [Req.bytesRTU, withCrc, crcTrailer]; omega), hfc]
  exact rt_rtu_fc r h _ sp (.inr rfl)

theorem rt_rtu_crc (r : Req) (h : Req.ParserLegal r) (sp : Bytes) :
    parseRTURequestWithCRC ⟨r.bytesRTU, sp⟩ = .ok r := by
  have hl := pdu_len_ge r
  rw [parseRTURequestWithCRC_eq (v := r.bytesRTU) (by simp [Req.bytesRTU, withCrc, crcTrailer]; omega)
    ((crcMatches_iff r.pdu _ _).2 ⟨rfl, rfl⟩)]
  exact rt_rtu r h sp

end Modbus.Lemmas
