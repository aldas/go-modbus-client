import ModbusProofs.Lemmas.Slice
import Modbus.Spec.Registers
import Mathlib.Tactic.SplitIfs
/-
  Helper lemmas for C04 / C05: every accessor of `Registers` is `Spec.wire` (the window test over natural numbers
  together with the addressed wire bytes) followed by a function of those bytes.
-/
namespace Modbus.Lemmas
open Modbus.Model

/-- a `Registers` value as `NewRegisters` builds it: `n ≥ 1` registers, window inside the address space -/
structure RegWF (r : Registers) (d sp : Bytes) (n : Nat) : Prop where
  data : r.data = ⟨d, sp⟩
  len : d.length = 2 * n
  pos : 1 ≤ n
  end_ : r.end_ = r.start.toNat + n
  fits : r.start.toNat + n ≤ 65536

theorem newRegisters_eq (d sp : Bytes) (start : UInt16) {n : Nat} (hl : d.length = 2 * n) (hn : 1 ≤ n) :
    newRegisters ⟨d, sp⟩ start = .ok ⟨9, start, start.toNat + n, ⟨d, sp⟩⟩ := by
  unfold newRegisters
  dsimp only
  rw [hl, if_neg (by omega), if_neg (not_not_intro (Nat.mul_mod_right 2 n)), Nat.mul_div_cancel_left n (by decide)]

variable {r : Registers} {d sp : Bytes} {n : Nat}

/-- `Spec.wire` on the payload of a register view: the window test over natural numbers and the addressed bytes -/
theorem wire_eq (wf : RegWF r d sp n) (addr : UInt16) (k : Nat) :
    Spec.wire d r.start.toNat addr.toNat k =
      if r.start.toNat ≤ addr.toNat ∧ addr.toNat + k ≤ r.start.toNat + n then
        some ((d.drop (2 * (addr.toNat - r.start.toNat))).take (2 * k)) else none := by
  unfold Spec.wire
  rw [wf.len, Nat.mul_div_cancel_left n Nat.two_pos]

theorem wire_some (wf : RegWF r d sp n) {addr : UInt16} {k : Nat} {w : Bytes}
    (hw : Spec.wire d r.start.toNat addr.toNat k = some w) :
    r.start.toNat ≤ addr.toNat ∧ addr.toNat + k ≤ r.start.toNat + n ∧
      (addr - r.start).toNat * 2 = 2 * (addr.toNat - r.start.toNat) ∧
      w = (d.drop (2 * (addr.toNat - r.start.toNat))).take (2 * k) := by
  rw [wire_eq wf] at hw
  split_ifs at hw with h
  refine ⟨h.1, h.2, ?_, (Option.some.inj hw).symm⟩
  rw [UInt16.toNat_sub_of_le _ _ (UInt16.le_iff_toNat_le.2 h.1), Nat.mul_comm]

/-- the two range checks an accessor starts with are the window test of `Spec.wire`; `c` is the accessor's own
second check, `body` what it does when both pass, `val` the same as a function of the addressed wire bytes -/
theorem window_cases {β : Type} (wf : RegWF r d sp n) (addr : UInt16) (k : Nat) {c : Prop} [Decidable c]
    (hc : r.start.toNat ≤ addr.toNat → (c ↔ r.start.toNat + n < addr.toNat + k)) {body : PRes β} {val : Bytes → β}
    (hbody : ∀ w, Spec.wire d r.start.toNat addr.toNat k = some w → body = .ok (val w)) :
    (if addr < r.start then .err .plain else if c then .err .plain else body) =
      (Spec.wire d r.start.toNat addr.toNat k).elim (.err .plain) fun w => .ok (val w) := by
  cases hw : Spec.wire d r.start.toNat addr.toNat k with
  | some w =>
    obtain ⟨h1, h2, -⟩ := wire_some wf hw
    rw [if_neg (by rw [UInt16.lt_iff_toNat_lt]; omega), if_neg (by rw [hc h1]; omega)]
    exact hbody w hw
  | none =>
    rw [wire_eq wf] at hw
    split_ifs at hw with h
    by_cases h1 : addr < r.start
    · rw [if_pos h1]; rfl
    · have h2 := UInt16.le_iff_toNat_le.1 (UInt16.not_lt.1 h1)
      rw [if_neg h1, if_pos ((hc h2).2 (by omega))]; rfl

theorem wire_len (wf : RegWF r d sp n) {addr : UInt16} {k : Nat} {w : Bytes}
    (hw : Spec.wire d r.start.toNat addr.toNat k = some w) : w.length = 2 * k := by
  obtain ⟨_, _, -, rfl⟩ := wire_some wf hw
  rw [List.length_take, List.length_drop, wf.len]
  exact Nat.min_eq_left (by omega)

theorem bytes_win (wf : RegWF r d sp n) {addr : UInt16} {k : Nat} {w : Bytes}
    (hw : Spec.wire d r.start.toNat addr.toNat k = some w) :
    r.data.bytes (ε := PErr) ((addr - r.start).toNat * 2) ((addr - r.start).toNat * 2 + 2 * k) = .ok w := by
  obtain ⟨_, _, e, rfl⟩ := wire_some wf hw
  have := wf.len
  rw [wf.data, e, bytes_eq d sp _ _ (Nat.le_add_right _ _) (by omega), Nat.add_sub_cancel_left]

theorem idx_win (wf : RegWF r d sp n) {addr : UInt16} {k : Nat} {w : Bytes}
    (hw : Spec.wire d r.start.toNat addr.toNat k = some w) (m : Nat) (hm : m < 2 * k) :
    r.data.idx (ε := PErr) ((addr - r.start).toNat * 2 + m) = .ok (w.getD m 0) := by
  obtain ⟨_, _, e, rfl⟩ := wire_some wf hw
  have := wf.len
  rw [wf.data, e, idx_eq d sp _ (by omega)]
  simp only [List.getD_eq_getElem?_getD, List.getElem?_take_of_lt hm, List.getElem?_drop]

/-- word order of a multi-register value: reversed when the LowWordFirst flag (4) is set -/
def reorder (o : ByteOrder) (w : Bytes) : Bytes :=
  (if o &&& 4 ≠ 0 then (Spec.words w).reverse else Spec.words w).flatten

theorem words_flatten : ∀ (l : Bytes) {k : Nat}, l.length = 2 * k → (Spec.words l).flatten = l
  | [], _, _ => rfl
  | [_], _, h => by rw [List.length_singleton] at h; omega
  | a :: b :: rest, k, h => by
    rw [Spec.words, List.flatten_cons,
      words_flatten rest (k := k - 1) (by simp only [List.length_cons] at h; omega)]; rfl

theorem words_rev_flatten : ∀ (l : Bytes) {k : Nat}, l.length = 2 * k →
    ((Spec.words l).map List.reverse).flatten = swapPairs l
  | [], _, _ => rfl
  | [_], _, h => by rw [List.length_singleton] at h; omega
  | a :: b :: rest, k, h => by
    rw [Spec.words, List.map_cons, List.flatten_cons, swapPairs,
      words_rev_flatten rest (k := k - 1) (by simp only [List.length_cons] at h; omega)]; rfl

theorem register_eq (wf : RegWF r d sp n) (addr : UInt16) :
    r.register addr = (Spec.wire d r.start.toNat addr.toNat 1).elim (.err .plain) .ok :=
  window_cases wf addr 1 (fun _ => by rw [wf.end_]; omega) (val := id) fun _ => bytes_win wf

theorem doubleRegister_eq (wf : RegWF r d sp n) (addr : UInt16) (o : ByteOrder) :
    r.doubleRegister addr o = (Spec.wire d r.start.toNat addr.toNat 2).elim (.err .plain) fun w => .ok (reorder o w) := by
  refine window_cases wf addr 2 (fun _ => by rw [wf.end_]) fun w hw => ?_
  have hl := wire_len wf hw
  dsimp only
  unfold reorder
  split
  · have h0 : r.data.idx (ε := PErr) ((addr - r.start).toNat * 2) = _ := idx_win wf hw 0 (by decide)
    rw [idx_win wf hw 2 (by decide), idx_win wf hw 3 (by decide), h0, idx_win wf hw 1 (by decide)]
    match w, hl with
    | [_, _, _, _], _ => rfl
  · rw [bytes_win wf hw, words_flatten w hl]

theorem quadRegister_eq (wf : RegWF r d sp n) (addr : UInt16) (o : ByteOrder) :
    r.quadRegister addr o = (Spec.wire d r.start.toNat addr.toNat 4).elim (.err .plain) fun w => .ok (reorder o w) := by
  refine window_cases wf addr 4 (fun _ => by rw [wf.end_]) fun w hw => ?_
  have hl := wire_len wf hw
  dsimp only
  unfold reorder
  split
  · have h0 : r.data.idx (ε := PErr) ((addr - r.start).toNat * 2) = _ := idx_win wf hw 0 (by decide)
    rw [idx_win wf hw 6 (by decide), idx_win wf hw 7 (by decide), idx_win wf hw 4 (by decide), idx_win wf hw 5 (by decide),
      idx_win wf hw 2 (by decide), idx_win wf hw 3 (by decide), h0, idx_win wf hw 1 (by decide)]
    match w, hl with
    | [_, _, _, _, _, _, _, _], _ => rfl
  · rw [bytes_win wf hw, words_flatten w hl]

theorem string_eq (wf : RegWF r d sp n) (addr : UInt16) (len : UInt8) (o : ByteOrder) :
    r.string addr len o = (Spec.wire d r.start.toNat addr.toNat ((len.toNat + 1) / 2)).elim (.err .plain) fun w =>
      .ok (Spec.strVal (r.ord o) len.toNat w) := by
  have hk : len.toNat + (if len.toNat % 2 ≠ 0 then 1 else 0) = 2 * ((len.toNat + 1) / 2) := by
    split_ifs <;> omega
  unfold Registers.string
  dsimp only
  rw [Nat.add_assoc, hk]
  refine window_cases wf addr _ (fun h => ?_) fun w hw => ?_
  · have := wf.len
    rw [wf.data, UInt16.toNat_sub_of_le _ _ (UInt16.le_iff_toNat_le.2 h)]
    dsimp only
    omega
  · have hl := wire_len wf hw
    rw [bytes_win wf hw, Res.bind_ok]
    unfold Spec.strVal
    split
    · dsimp only; rw [words_rev_flatten w hl]
    · dsimp only; rw [words_flatten w hl]

end Modbus.Lemmas
