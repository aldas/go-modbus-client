import ModbusProofs.Lemmas.Slice
/-
  A small program logic for the parsers of the model. They are straight-line code in the `Res` monad: guards on the
  length, in-bounds reads, a value or an error at the end. `Run P E x y` is the contract of one such piece of code,
  and its rules follow the syntax of the code, so the contract of a parser is established by one walk through its
  body; what the properties ask of a parser (independent of the spare capacity? no panic? what is accepted? which
  errors?) is read off that one contract (`Run.spareSafe`, `Run.ne_panic`, `Run.okSat`, `Run.errOk`).
-/
namespace Modbus.Lemmas
open Modbus.Model

/-- independent of the spare capacity, and not a panic -/
def SpareSafe {ε α} (f : Slice → Res ε α) : Prop :=
  ∀ v sp, f ⟨v, sp⟩ = f ⟨v, []⟩ ∧ f ⟨v, sp⟩ ≠ .panic

/-- every value returned satisfies `P` -/
inductive OkSat {ε α} (P : α → Prop) : Res ε α → Prop
  | ok {a : α} : P a → OkSat P (.ok a)
  | err {e : ε} : OkSat P (.err e)
  | panic : OkSat P .panic

theorem OkSat.elim {ε α} {P : α → Prop} {x : Res ε α} (h : OkSat P x) {a : α} (hx : x = .ok a) : P a := by
  subst hx; cases h; assumption

theorem OkSat.mono {ε α} {P Q : α → Prop} {x : Res ε α} (h : OkSat P x) (hpq : ∀ a, P a → Q a) : OkSat Q x := by
  cases h with
  | ok h => exact .ok (hpq _ h)
  | err => exact .err
  | panic => exact .panic

/-- every error satisfies `P` (inductive twin of `OkSat` for error returns; panics are excluded) -/
inductive ErrOk {ε α} (P : ε → Prop) : Res ε α → Prop
  | ok {a : α} : ErrOk P (.ok a)
  | err {e : ε} : P e → ErrOk P (.err e)

/-- all error returns of `x` satisfy `P` (a structure, so that `intro`/`split` do not look through it) -/
structure ErrSat {α} (P : PErr → Prop) (x : PRes α) : Prop where
  h : ∀ e, x = .err e → P e

section
variable {P : PErr → Prop}
theorem ErrSat.from_ (s : Slice) (a : Nat) : ErrSat P (s.from_ (ε := PErr) a) := by
  unfold Slice.from_; split <;> exact ⟨fun e he => by simp at he⟩
end

/-- `x` and `y` are the same code running on two slices with the same visible bytes: the two agree, do not panic,
return only values satisfying `P` and only errors satisfying `E`. -/
def Run {ε α : Type} (P : α → Prop) (E : ε → Prop) (x y : Res ε α) : Prop :=
  x = y ∧ match x with
    | .ok a => P a
    | .err e => E e
    | .panic => False

namespace Run
variable {ε α β : Type} {P P' : α → Prop} {Q : β → Prop} {E E' : ε → Prop} {x y : Res ε α}

theorem ret {a : α} (h : P a) : Run P E (.ok a : Res ε α) (.ok a) := ⟨rfl, h⟩

theorem fail {e : ε} (h : E e) : Run P E (.err e : Res ε α) (.err e) := ⟨rfl, h⟩

theorem bind {f g : α → Res ε β} (hx : Run P E x y) (hf : ∀ a, P a → Run Q E (f a) (g a)) :
    Run Q E (x.bind f) (y.bind g) := by
  obtain ⟨rfl, h⟩ := hx
  cases x with
  | ok a => exact hf a h
  | err e => exact fail h
  | panic => exact h.elim

theorem ite {c : Prop} [Decidable c] {a a' b b' : Res ε α} (ht : c → Run P E a a') (hf : ¬c → Run P E b b') :
    Run P E (if c then a else b) (if c then a' else b') := by
  split
  · exact ht ‹_›
  · exact hf ‹_›

/-- a guard written as a negation: the branches get `¬p` and `p`, not `¬p` and `¬¬p` -/
theorem ite_not {p : Prop} [Decidable p] {a a' b b' : Res ε α} (ht : ¬p → Run P E a a') (hf : p → Run P E b b') :
    Run P E (if ¬p then a else b) (if ¬p then a' else b') :=
  ite ht fun h => hf (Decidable.of_not_not h)

theorem mono (h : Run P E x y) (hp : ∀ a, P a → P' a) (he : ∀ e, E e → E' e) : Run P' E' x y := by
  obtain ⟨rfl, h⟩ := h
  cases x with
  | ok a => exact ret (hp a h)
  | err e => exact fail (he e h)
  | panic => exact h.elim

theorem ne_panic (h : Run P E x y) : x ≠ .panic := by
  rintro rfl; exact h.2

theorem okSat (h : Run P E x y) : OkSat P x := by
  obtain ⟨-, h⟩ := h
  cases x with
  | ok a => exact .ok h
  | err e => exact .err
  | panic => exact .panic

theorem errOk (h : Run P E x y) : ErrOk E x := by
  obtain ⟨-, h⟩ := h
  cases x with
  | ok a => exact .ok
  | err e => exact .err h
  | panic => exact h.elim

theorem of_err {e : ε} (h : Run P E x y) (hx : x = .err e) : E e := by
  subst hx; exact h.2

theorem eq_ok {a : α} (h : Run (· = a) (fun _ : ε => False) x x) : x = .ok a := by
  obtain ⟨-, h⟩ := h
  cases x with
  | ok b => rw [h]
  | err e => exact h.elim
  | panic => exact h.elim

theorem spareSafe {f : Slice → Res ε α} {P : Bytes → α → Prop} {E : Bytes → ε → Prop}
    (h : ∀ v sp sp', Run (P v) (E v) (f ⟨v, sp⟩) (f ⟨v, sp'⟩)) : SpareSafe f :=
  fun v sp => ⟨(h v sp []).1, (h v sp []).ne_panic⟩

/-! An in-bounds read returns the same bytes of `v` whatever the spare capacity, and the code goes on with them. -/
variable {v sp sp' : Bytes}

theorem idx {f g : UInt8 → Res ε β} {i : Nat} (h : i < v.length) (k : Run Q E (f (v.getD i 0)) (g (v.getD i 0))) :
    Run Q E (((Slice.mk v sp).idx i).bind f) (((Slice.mk v sp').idx i).bind g) := by
  rwa [idx_eq v sp i h, idx_eq v sp' i h]

theorem rd16 {f g : UInt16 → Res ε β} {a : Nat} (h : a + 2 ≤ v.length)
    (k : Run Q E (f (be16 (v.getD a 0) (v.getD (a + 1) 0))) (g (be16 (v.getD a 0) (v.getD (a + 1) 0)))) :
    Run Q E (((Slice.mk v sp).rd16 a).bind f) (((Slice.mk v sp').rd16 a).bind g) := by
  rwa [rd16_eq v sp a h, rd16_eq v sp' a h]

theorem bytes {f g : Bytes → Res ε β} {a b : Nat} (hab : a ≤ b) (h : b ≤ v.length)
    (k : Run Q E (f ((v.drop a).take (b - a))) (g ((v.drop a).take (b - a)))) :
    Run Q E (((Slice.mk v sp).bytes a b).bind f) (((Slice.mk v sp').bytes a b).bind g) := by
  rwa [bytes_eq v sp a b hab h, bytes_eq v sp' a b hab h]

theorem from_ {f g : Slice → Res ε β} {a : Nat} (h : a ≤ v.length) (k : Run Q E (f ⟨v.drop a, sp⟩) (g ⟨v.drop a, sp'⟩)) :
    Run Q E (((Slice.mk v sp).from_ a).bind f) (((Slice.mk v sp').from_ a).bind g) := by
  rwa [from_eq v sp a h, from_eq v sp' a h]

theorem copyOut {E : PErr → Prop} {f g : Bytes → PRes β} {a n : Nat} (h : a + n ≤ v.length)
    (k : Run Q E (f ((v.drop a).take n)) (g ((v.drop a).take n))) :
    Run Q E ((copyOut (Slice.mk v sp) a n).bind f) ((Model.copyOut (Slice.mk v sp') a n).bind g) := by
  rwa [copyOut_eq v sp a n h, copyOut_eq v sp' a n h]

end Run

/-- The walk through a parser's body (after `unfold`, `dsimp only`): at each step the rule for the construct at the
head of the code, bounds by `omega` from the guards passed so far; rules apply only where they match syntactically.
Left over: the postcondition at every `ok` and `err` leaf, in the order of the code. The header of a TCP parser is not a
construct of the walk: its rule `Run.mbap` (Request.lean) is applied first, by hand.
`apply`, not `refine`: a rule that does not fit is then turned down as soon as its conclusion fails to unify, before its
arguments are elaborated (with `refine` the rules that do not fit are most of the cost of a walk); the reads, the most
frequent construct, come first. `guard_target`: a leaf is left at once, not after each of the nine rules has failed on it. -/
macro "run_walk" : tactic => `(tactic| repeat' with_reducible (guard_target = Run _ _ _ _; first
  | apply Run.idx (by omega)
  | apply Run.rd16 (by omega)
  | (apply Run.ite_not <;> intro _)
  | (apply Run.ite <;> intro _)
  | apply Run.fail
  | apply Run.copyOut (by omega)
  | apply Run.bytes (by omega) (by omega)
  | apply Run.from_ (by omega)
  | apply Run.ret))

end Modbus.Lemmas
