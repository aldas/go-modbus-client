import ModbusProofs.Lemmas.Request
import ModbusProofs.Lemmas.Response
import Modbus.Model.Assembler
/-
  The reassembly loop of the TCP server (`ModbusTCPAssembler.ReceiveRead`). A byte stream is a sequence of delimited
  frames followed by a rest that is pending or not Modbus (`stream_induction`); the loop with enough fuel (`asm`) has
  one equation for each of the three, and what is said about it on a stream is proved from these.
-/
namespace Modbus.Lemmas
open Modbus.Model

/-- a frame the classifier delimits: it reports the frame's own length, with or without an
"unsupported function" exception -/
def Delimited (f : Bytes) : Prop :=
  ∃ e, looksLike ⟨f, []⟩ false = .ok (f.length, e) ∧ e ≠ some .tooShortT ∧ e ≠ some .notTCP

/-- bytes that are the beginning of a frame still being received: fewer than 8 bytes, or a header announcing more -/
def Pending (p : Bytes) : Prop :=
  p.length < 8 ∨ ∃ n e, looksLike ⟨p, []⟩ false = .ok (n, e) ∧ e ≠ some .tooShortT ∧ e ≠ some .notTCP ∧ p.length < n

/-- bytes on which the stream cannot be re-synchronised -/
def NotModbus (a : Bytes) : Prop := looksLike ⟨a, []⟩ false = .ok (0, some .notTCP)

/-- the reply to one delimited frame arriving on its own; `none` = the handler panicked -/
def frameReply (h : Handler) (f : Bytes) : Option Bytes :=
  match looksLike ⟨f, []⟩ false with
  | .ok (_, some err) => some ((err.bytes).getD [])
  | .ok (_, none) => handleFrame h f []
  | _ => none

def Stopped (o : AsmOut) : Prop := o.close = true ∨ o.panicked = true

theorem stopped_iff (o : AsmOut) : Stopped o ↔ (o.close || o.panicked) = true := by simp [Stopped]

theorem eq_of_not_stopped {o : AsmOut} (ho : ¬ Stopped o) : o = { reply := o.reply, close := false, buf := o.buf } := by
  cases o
  simp_all [Stopped]

theorem Delimited.length_ge {f : Bytes} (hd : Delimited f) : 9 ≤ f.length := by
  obtain ⟨e, hl, hts, hnt⟩ := hd
  exact (looksLike_frame f [] _ e hl hts hnt).2.len

theorem NotModbus.append {a : Bytes} (hn : NotModbus a) (b : Bytes) : NotModbus (a ++ b) := by
  have h8 : 8 ≤ a.length := Nat.le_of_not_lt fun h8 => by
    rw [NotModbus, looksLike_short a [] false h8] at hn; cases hn
  exact (looksLike_append a b [] [] false h8).trans hn

theorem head_cases (buf : Bytes) : Pending buf ∨ NotModbus buf ∨ ∃ f rest, buf = f ++ rest ∧ Delimited f := by
  by_cases h8 : buf.length < 8
  · exact .inl (.inl h8)
  · rcases looksLike_cases buf [] (by omega) with hn | ⟨n, e, hl, hts, hnt, hv⟩
    · exact .inr (.inl hn)
    · have h9 := hv.len
      by_cases hlt : buf.length < n
      · exact .inl (.inr ⟨n, e, hl, hts, hnt, hlt⟩)
      · refine .inr (.inr ⟨buf.take n, buf.drop n, (List.take_append_drop n buf).symm, e, ?_, hts, hnt⟩)
        rw [looksLike_take buf [] [] false n (by omega) (by omega), hl, List.length_take, Nat.min_eq_left (by omega)]

/-- every byte stream is a sequence of delimited frames followed by a rest that is pending or not Modbus -/
theorem stream_induction {motive : Bytes → Prop} (pending : ∀ p, Pending p → motive p)
    (notModbus : ∀ a, NotModbus a → motive a) (frame : ∀ f rest, Delimited f → motive rest → motive (f ++ rest))
    (buf : Bytes) : motive buf := by
  rcases head_cases buf with hp | hn | ⟨f, rest, hb, hd⟩
  · exact pending _ hp
  · exact notModbus _ hn
  · exact hb ▸ frame f rest hd (stream_induction pending notModbus frame rest)
termination_by buf.length
decreasing_by have := hd.length_ge; simp [hb]; omega

theorem handleFrame_spare (h : Handler) (frame sp1 sp2 : Bytes) : handleFrame h frame sp1 = handleFrame h frame sp2 := by
  unfold handleFrame
  rw [(run_parseTCPRequest frame sp1 sp2).1]

theorem asmLoop_round (h : Handler) (F : Nat) (buf out : Bytes) {n : Nat} {e : Option PErr}
    (hl : looksLike ⟨buf, []⟩ false = .ok (n, e)) (hts : e ≠ some .tooShortT) (hnt : e ≠ some .notTCP) :
    asmLoop h (F + 1) buf out =
      if buf.length < n then { reply := out, close := false, buf := buf } else
      match (generalizing := false) e with
      | some err => asmLoop h F (buf.drop n) (out ++ (err.bytes).getD [])
      | none =>
        match handleFrame h (buf.take n) (buf.drop n) with
        | some r => asmLoop h F (buf.drop n) (out ++ r)
        | none => { reply := out, close := true, buf := buf.drop n, panicked := true } := by
  rw [asmLoop, hl]
  split
  · rename_i heq; cases heq; exact absurd rfl hts
  · rename_i heq; cases heq; exact absurd rfl hnt
  · rename_i heq; cases heq; rfl
  · rename_i hno; exact (hno _ _ rfl).elim

/-- once the fuel exceeds the buffer's length one more unit changes nothing: every round consumes at least 9 bytes -/
theorem asmLoop_succ (h : Handler) : ∀ (F : Nat) (buf out : Bytes), buf.length < F →
    asmLoop h (F + 1) buf out = asmLoop h F buf out := by
  intro F
  induction F with
  | zero => intro buf out hF; omega
  | succ F ih =>
    intro buf out hF
    by_cases h8 : buf.length < 8
    · rw [asmLoop, asmLoop, looksLike_short buf [] false h8]
    · rcases looksLike_cases buf [] (by omega) with hn | ⟨n, e, hl, hts, hnt, hv⟩
      · rw [asmLoop, asmLoop, hn]
      · have h9 := hv.len
        rw [asmLoop_round h _ buf out hl hts hnt, asmLoop_round h F buf out hl hts hnt]
        have hd : (buf.drop n).length < F := by simp; omega
        split
        · rfl
        · cases e with
          | some err => exact ih _ _ hd
          | none => cases handleFrame h (buf.take n) (buf.drop n) with
            | none => rfl
            | some r => exact ih _ _ hd

/-- the frame loop with enough fuel for its buffer -/
def asm (h : Handler) (buf out : Bytes) : AsmOut := asmLoop h (buf.length + 1) buf out

theorem receiveRead_eq (h : Handler) (buf chunk : Bytes) : receiveRead h buf chunk = asm h (buf ++ chunk) [] := rfl

theorem asmLoop_eq_asm (h : Handler) {buf : Bytes} {F : Nat} (out : Bytes) (hF : buf.length < F) :
    asmLoop h F buf out = asm h buf out := by
  induction hF with
  | refl => rfl
  | step hF ih => rw [asmLoop_succ h _ buf out hF, ih]

theorem asm_pending (h : Handler) (out : Bytes) {p : Bytes} (hp : Pending p) :
    asm h p out = { reply := out, close := false, buf := p } := by
  rcases hp with h8 | ⟨n, e, hl, hts, hnt, hlt⟩
  · rw [asm, asmLoop, looksLike_short p [] false h8]
  · rw [asm, asmLoop_round h _ p out hl hts hnt, if_pos hlt]

theorem asm_notModbus (h : Handler) (out : Bytes) {a : Bytes} (hn : NotModbus a) :
    asm h a out = { reply := out ++ excBytesTCP 0 0 0 0, close := true, buf := [] } := by
  rw [asm, asmLoop, hn]

theorem asm_frame (h : Handler) (rest out : Bytes) {f : Bytes} (hd : Delimited f) :
    asm h (f ++ rest) out =
      match frameReply h f with
      | some r => asm h rest (out ++ r)
      | none => { reply := out, close := true, buf := rest, panicked := true } := by
  have h9 := hd.length_ge
  obtain ⟨e, hl, hts, hnt⟩ := hd
  have hF : ∀ o, asmLoop h (f ++ rest).length rest o = asm h rest o := fun o => asmLoop_eq_asm h o (by simp; omega)
  rw [asm, asmLoop_round h _ _ out ((looksLike_append f rest [] [] false (by omega)).trans hl) hts hnt,
    if_neg (by simp), List.take_left' rfl, List.drop_left' rfl, frameReply, hl]
  cases e with
  | some err => exact hF _
  | none =>
    rw [handleFrame_spare h f rest []]
    cases handleFrame h f [] with
    | none => rfl
    | some r => exact hF _

theorem asm_out (h : Handler) (buf out : Bytes) :
    asm h buf out = { asm h buf [] with reply := out ++ (asm h buf []).reply } := by
  induction buf using stream_induction generalizing out with
  | pending p hp => simp [asm_pending h _ hp]
  | notModbus a hn => simp [asm_notModbus h _ hn]
  | frame f rest hd ih =>
    rw [asm_frame h rest out hd, asm_frame h rest [] hd]
    cases frameReply h f with
    | none => simp
    | some r => simp only [List.nil_append]; rw [ih (out ++ r), ih r]; simp

theorem asm_open_pending (h : Handler) (buf out : Bytes) (ho : ¬ Stopped (asm h buf out)) : Pending (asm h buf out).buf := by
  induction buf using stream_induction generalizing out with
  | pending p hp => rwa [asm_pending h _ hp]
  | notModbus a hn => exact absurd (by rw [asm_notModbus h _ hn]; exact .inl rfl) ho
  | frame f rest hd ih =>
    rw [asm_frame h rest out hd] at ho ⊢
    revert ho
    cases frameReply h f with
    | none => exact fun ho => absurd (.inl rfl) ho
    | some r => exact ih _

/-- the core of segmentation independence (C15). When `b` arrives after `a`: if the loop stopped on `a` it stops on
`a ++ b` too (nothing is said of the replies then); otherwise the loop on `a ++ b` is the loop on what was kept of `a`
followed by `b`, continuing the replies to `a`. -/
theorem asm_append (h : Handler) (a b out : Bytes) :
    Stopped (asm h a out) ∧ Stopped (asm h (a ++ b) out) ∨
    ¬ Stopped (asm h a out) ∧ asm h (a ++ b) out = asm h ((asm h a out).buf ++ b) (asm h a out).reply := by
  induction a using stream_induction generalizing out with
  | pending p hp => rw [asm_pending h _ hp]; exact .inr ⟨by simp [Stopped], rfl⟩
  | notModbus a hn => rw [asm_notModbus h _ hn, asm_notModbus h _ (hn.append b)]; exact .inl ⟨.inl rfl, .inl rfl⟩
  | frame f rest hd ih =>
    rw [List.append_assoc, asm_frame h rest out hd, asm_frame h (rest ++ b) out hd]
    cases frameReply h f with
    | none => exact .inl ⟨.inl rfl, .inl rfl⟩
    | some r => exact ih _

/-- the core of "exactly once, in order" (C15) -/
theorem asm_frames {α : Type} (h : Handler) (enc rep : α → Bytes) (xs : List α) (rest out : Bytes)
    (hx : ∀ x ∈ xs, Delimited (enc x) ∧ frameReply h (enc x) = some (rep x)) :
    asm h ((xs.map enc).flatten ++ rest) out = asm h rest (out ++ (xs.map rep).flatten) := by
  induction xs generalizing out with
  | nil => simp
  | cons x xs ih =>
    obtain ⟨hd, hr⟩ := hx x (by simp)
    rw [List.map_cons, List.flatten_cons, List.append_assoc, asm_frame h _ out hd, hr]
    simp only []
    rw [ih _ fun y hy => hx y (by simp [hy])]
    simp

end Modbus.Lemmas
