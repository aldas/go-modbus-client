import Modbus.Model.Builder
import ModbusProofs.Lemmas.Basic
/-
  The loop of `ExtractFields`, as a function of what each field yields on its own. The loops of the model
  (`extractLoop`, `extractCoilLoop`) and of C13 (`soloLoop`) are instances of it, so what is reported in which
  error mode is proved once, about it (here and in the `specLoop_*` theorems of C05).
-/
namespace Modbus.Properties.C05
open Modbus.Model

/-- the extraction loop driven by a per-field result function (the specification's shape of `ExtractFields`) -/
def specLoop (lenient : Bool) (res : Field → PRes Val) : List Field → List (Field × PRes Val) → Bool → Extracted
  | [], acc, had => if had then .some_ acc else .all acc
  | f :: rest, acc, had =>
    match res f with
    | .ok v => specLoop lenient res rest (acc ++ [(f, .ok v)]) had
    | .err e => if !lenient then .failed else specLoop lenient res rest (acc ++ [(f, .err e)]) true
    | .panic => .panicked

end Modbus.Properties.C05

namespace Modbus.Lemmas
open Modbus.Model Modbus.Properties.C05

variable {lenient : Bool} {res res' : Field → PRes Val}

theorem specLoop_congr {fs : List Field} (h : ∀ f ∈ fs, res f = res' f) (acc : List (Field × PRes Val)) (had : Bool) :
    specLoop lenient res fs acc had = specLoop lenient res' fs acc had := by
  induction fs generalizing acc had with
  | nil => rfl
  | cons f rest ih =>
    obtain ⟨hf, hrest⟩ := List.forall_mem_cons.1 h
    simp only [specLoop, hf, ih hrest]

theorem specLoop_ok {fs : List Field} (h : ∀ f ∈ fs, (res f).isOk = true) (acc : List (Field × PRes Val)) (had : Bool) :
    specLoop lenient res fs acc had =
      (if had then Extracted.some_ else Extracted.all) (acc ++ fs.map fun f => (f, res f)) := by
  induction fs generalizing acc with
  | nil => cases had <;> simp [specLoop]
  | cons f rest ih =>
    obtain ⟨hf, hrest⟩ := List.forall_mem_cons.1 h
    obtain ⟨v, hv⟩ := Res.isOk_iff.1 hf
    simp [specLoop, hv, ih hrest]

theorem specLoop_lenient_eq {fs : List Field} (h : ∀ f ∈ fs, res f ≠ .panic) (acc : List (Field × PRes Val)) (had : Bool) :
    specLoop true res fs acc had =
      (if had || fs.any fun f => (res f).isErr then Extracted.some_ else Extracted.all)
        (acc ++ fs.map fun f => (f, res f)) := by
  induction fs generalizing acc had with
  | nil => cases had <;> simp [specLoop]
  | cons f rest ih =>
    obtain ⟨hf, hrest⟩ := List.forall_mem_cons.1 h
    unfold specLoop
    cases hres : res f with
    | ok v => simp [ih hrest, hres, show (Res.ok v : PRes Val).isErr = false from rfl]
    | err e => simp [ih hrest, hres, show (Res.err e : PRes Val).isErr = true from rfl]
    | panic => exact absurd hres hf

theorem specLoop_fails_at {pre : List Field} (h : ∀ g ∈ pre, (res g).isOk = true) {f : Field} {e : PErr}
    (hf : res f = .err e) (post : List Field) (acc : List (Field × PRes Val)) (had : Bool) :
    specLoop false res (pre ++ f :: post) acc had = .failed := by
  induction pre generalizing acc with
  | nil => simp only [List.nil_append, specLoop, hf]; rfl
  | cons g rest ih =>
    obtain ⟨hg, hrest⟩ := List.forall_mem_cons.1 h
    obtain ⟨v, hv⟩ := Res.isOk_iff.1 hg
    rw [List.cons_append, specLoop, hv]
    exact ih hrest _

end Modbus.Lemmas
