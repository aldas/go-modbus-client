import Modbus.Model.Response
import ModbusProofs.Lemmas.Basic
/-
  In-bounds accessors on a Go slice do not look at (or depend on) the spare capacity.
-/
namespace Modbus.Lemmas
open Modbus.Model

variable {ε : Type}

theorem getD_eq_getElem (v : Bytes) {i : Nat} (h : i < v.length) : v.getD i 0 = v[i] := by
  rw [List.getD_eq_getElem?_getD, List.getElem?_eq_getElem h]; rfl

theorem idx_eq (v sp : Bytes) (i : Nat) (h : i < v.length) :
    (Slice.mk v sp).idx (ε := ε) i = .ok (v.getD i 0) := by
  rw [Slice.idx, dif_pos h, getD_eq_getElem v h]

theorem sub_eq (v sp : Bytes) (a b : Nat) (hab : a ≤ b) (hb : b ≤ v.length) :
    (Slice.mk v sp).sub (ε := ε) a b = .ok ⟨(v.drop a).take (b - a), (v ++ sp).drop b⟩ := by
  unfold Slice.sub Slice.cap Slice.all
  have : a ≤ b ∧ b ≤ v.length + sp.length := ⟨hab, by omega⟩
  simp only [this, and_self, if_true]
  congr 2
  rw [List.drop_append_of_le_length (by omega), List.take_append_of_le_length (by simp; omega)]

theorem bytes_eq (v sp : Bytes) (a b : Nat) (hab : a ≤ b) (hb : b ≤ v.length) :
    (Slice.mk v sp).bytes (ε := ε) a b = .ok ((v.drop a).take (b - a)) := by
  unfold Slice.bytes
  rw [sub_eq v sp a b hab hb]
  rfl

theorem rd16_eq (v sp : Bytes) (a : Nat) (h : a + 2 ≤ v.length) :
    (Slice.mk v sp).rd16 (ε := ε) a = .ok (be16 (v.getD a 0) (v.getD (a + 1) 0)) := by
  have h0 : a < v.length := by omega
  have h1 : a + 1 < v.length := by omega
  rw [Slice.rd16, sub_eq v sp a (a + 2) (by omega) h, Nat.add_sub_cancel_left, List.drop_eq_getElem_cons h0,
    List.drop_eq_getElem_cons h1, getD_eq_getElem v h0, getD_eq_getElem v h1]
  rfl

theorem from_eq (v sp : Bytes) (a : Nat) (h : a ≤ v.length) :
    (Slice.mk v sp).from_ (ε := ε) a = .ok ⟨v.drop a, sp⟩ := by
  unfold Slice.from_ Slice.len
  simp [h]

theorem copyOut_eq (v sp : Bytes) (a n : Nat) (h : a + n ≤ v.length) :
    copyOut (Slice.mk v sp) a n = .ok ((v.drop a).take n) := by
  unfold copyOut
  split
  · rw [bytes_eq v sp a (a + n) (by omega) h]
    congr 2
    omega
  · have : n = 0 := by omega
    subst this
    simp

end Modbus.Lemmas
