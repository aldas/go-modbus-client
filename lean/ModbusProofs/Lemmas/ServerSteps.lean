import ModbusProofs.Lemmas.ServerInv
/-
  Every step of every process preserves the invariant. A step that touches no connection record is a structure update
  `{ h with ... }` of the proof for the state before: it re-proves exactly the clauses that mention a component the
  step changes, the others are accepted because their statements unfold to the same terms.
-/
namespace Modbus.Lemmas.ServerLife
open Modbus.Model.ServerLife

theorem nodup_concat {l : List Nat} {c : Nat} (h : l.Nodup) (hc : c ∉ l) : (l ++ [c]).Nodup :=
  List.nodup_append.2 ⟨h, List.pairwise_singleton _ c, fun _ ha _ hb e => hc (List.mem_singleton.1 hb ▸ e ▸ ha)⟩

/-- a client the server has not heard of is remembered: its record is fresh, so it is neither counted nor in the map -/
theorem inv_ids_append {cfg : Cfg} {s : St} (h : Inv cfg s) {c : Nat} (hc : c ∉ s.ids) :
    Inv cfg { s with ids := s.ids ++ [c] } :=
  { h with
    nodup := nodup_concat h.nodup hc
    qsub := fun d hd => ⟨List.mem_append_left _ (h.qsub d hd).1, (h.qsub d hd).2⟩
    accC := fun d hd => ⟨List.mem_append_left _ (h.accC d hd).1, (h.accC d hd).2⟩
    fresh := fun d hd => h.fresh d fun e => hd (List.mem_append_left _ e)
    count := by rw [h.count]; simp [liveCount, Counted, (h.fresh c hc).pc]
    sweep := fun rem ai e ha d _ hm => h.sweep rem ai e ha d (h.inMap_ids hm) hm }

theorem inv_clientConnect (cfg : Cfg) (s : St) (c : Nat) (h : Inv cfg s) : Inv cfg (step cfg s (.clientConnect c)) := by
  simp only [step]
  split
  · exact h
  · next hc =>
    have hc : c ∉ s.ids := by simpa using hc
    split
    · -- the listener is open: the connection enters the backlog
      have h1 := inv_conn_irrelevant h c true (s.conns c).inbox (s.conns c).acceptArg
      have h2 := inv_ids_append h1 hc
      exact { h2 with
        qnodup := nodup_concat h.qnodup fun e => hc (h.qsub c e).1
        qsub := fun d hd => (List.mem_append.1 hd).elim (h2.qsub d) fun e => by
          cases List.mem_singleton.1 e
          exact ⟨List.mem_append_right _ (List.mem_singleton_self c), h1.fresh c hc⟩
        accC := fun d hd => ⟨(h2.accC d hd).1, (h2.accC d hd).2.1, fun e => (List.mem_append.1 e).elim (h2.accC d hd).2.2
          fun e => hc (List.mem_singleton.1 e ▸ (h.accC d hd).1)⟩ }
    · exact inv_ids_append h hc

theorem inv_conn (cfg : Cfg) (s : St) (c : Nat) (h : Inv cfg s) : Inv cfg (step cfg s (.conn c)) :=
  inv_conn_upd cfg s c _ _ h (cinv_connTrans cfg _ _ _ _ (h.cinv c))
    (fun hf => by rw [connTrans_notStarted _ _ _ _ _ hf.pc]; exact .inl hf)
    (connTrans_counted cfg _ _ _ _)
    (fun hm => .inl ((connTrans_inMap cfg _ _ _ _).1 hm))
    (fun hm => ((connTrans_inMap cfg _ _ _ _).2 hm).imp id fun hmu rem ai e => absurd e (not_sweeping_of_muFree hmu rem ai))

theorem inv_shutdownCall (cfg : Cfg) (s : St) (h : Inv cfg s) : Inv cfg (step cfg s .shutdownCall) := by
  simp only [step]
  split
  · -- the first call sets the flag and closes the registered listener
    exact { h with
      shut := by simp
      remMap := fun _ _ e => by cases e; exact ⟨h.newSweep.1, h.newSweep.2.1⟩
      sweep := fun _ _ e => by cases e; exact h.newSweep.2.2
      retOk := nofun
      lis := fun _ hl => if_pos hl
      lisC := fun _ => .inl rfl }
  · -- called again after a call that gave up: a new sweep (`Inv` does not read `sdCtxExpired` and `sdAgain`)
    next hs => exact { inv_sd_move h (h.shut.2 (by rw [hs]; nofun)) h.newSweep with }
  · exact h

theorem inv_shutdownTick (cfg : Cfg) (s : St) (h : Inv cfg s) : Inv cfg (step cfg s .shutdownTick) := by
  simp only [step]
  split
  · next ai hs =>
    have hsh : s.isShutdown = true := h.shut.2 (by rw [hs]; nofun)
    split
    · -- everything seen was idle and was closed: by `sweep` the map is empty
      next hai =>
      exact inv_sd_move h hsh fun _ c => Bool.eq_false_iff.2 fun hm =>
        nomatch h.sweep [] ai hs hai c (h.inMap_ids hm) hm
    · split
      · exact inv_sd_move h hsh (absurd rfl)
      · exact inv_sd_move h hsh h.newSweep
  · exact h

theorem inv_shutdownScan (cfg : Cfg) (s : St) (c : Nat) (h : Inv cfg s) : Inv cfg (step cfg s (.shutdownScan c)) := by
  simp only [step]
  split
  · next rem ai hs =>
    split
    · next hcr =>
      have hcr : c ∈ rem := by simpa using hcr
      have hsh : s.isShutdown = true := h.shut.2 (by rw [hs]; nofun)
      have ⟨hnd, hmap⟩ := h.remMap rem ai hs
      -- Shutdown takes c off its list; if c is busy that is all, and the sweep will have to be repeated
      have h1 : Inv cfg { s with sd := .sweeping (rem.erase c) false } :=
        inv_sd_move h hsh ⟨hnd.erase c, fun d hd => hmap d (List.mem_of_mem_erase hd), nofun⟩
      split
      · -- idle: c is closed and leaves the map together with the list, so `sweep` still holds if it held
        next hidle =>
        have hpc := (h.cinv c).started_of_inMap (hmap c hcr)
        have h2 := inv_conn_upd cfg _ c _ 0 h1 ((h.cinv c).closedByShutdown hpc hidle) (fun hf => absurd hf.pc hpc)
          (Int.sub_self _).symm nofun (fun _ => .inr fun _ _ e => by cases e; exact hnd.not_mem_erase)
        rw [setC_count_zero] at h2
        refine inv_sd_move h2 hsh ⟨(h2.remMap _ _ rfl).1, (h2.remMap _ _ rfl).2, fun hai d hd hm => ?_⟩
        have hdc : d ≠ c := fun e => by rw [e, setC_conns_same] at hm; cases hm
        rw [setC_conns_other _ _ _ _ hdc] at hm
        exact (List.mem_erase_of_ne hdc).2 (h.sweep rem _ hs hai d hd hm)
      · exact h1
    · exact h
  · exact h

theorem inv_acc (cfg : Cfg) (s : St) (h : Inv cfg s) : Inv cfg (step cfg s .acc) := by
  show Inv cfg (accStep cfg s)
  -- the goals are the branches of `accStep` in the order of its text; `hacc` is the program counter of the branch
  fun_cases accStep cfg s
  all_goals have hacc := ‹s.acc = _›
  -- init: the mutex is held; Shutdown was called before Serve; the listener is registered
  · exact h
  · exact inv_acc_return h false rfl
  · exact { inv_acc_pc h hacc .accept nofun nofun nofun with lis := fun e => absurd e ‹¬s.isShutdown = true› }
  -- accept: the listener is closed; the oldest connection of the backlog is taken in hand; nothing to accept
  · have hlo : s.listenerOpen = false := by simpa using ‹(!s.listenerOpen) = true›
    have : (s.isShutdown || s.ctxCancelled) = true :=
      (h.lisC_running (by rw [hacc]; nofun) hlo).elim (by simp [·]) (by simp [·])
    rw [this]; exact inv_acc_return h _ hlo
  · have hq := ‹s.queue = _ :: _›
    have hnd := List.nodup_cons.1 (hq ▸ h.qnodup)
    have hc := h.qsub _ (hq ▸ List.mem_cons_self)
    exact { h with
      qnodup := hnd.2
      qsub := fun d hd => h.qsub d (hq ▸ List.mem_cons_of_mem _ hd)
      accC := fun d e => Option.some.inj e ▸ ⟨hc.1, hc.2, hnd.1⟩
      lisC := fun e => absurd e (by simpa using ‹¬(!s.listenerOpen) = true›)
      accRet := nofun }
  · exact h
  -- ctxCheck c: the context is cancelled, c is closed and Serve returns; or on to the callback
  · have ⟨hi, hf, hq⟩ := h.accC _ (congrArg accConn hacc)
    exact inv_setC (inv_acc_return h false rfl) hf.cinv_closed rfl rfl fun _ => .inr ⟨hi, hq, nofun⟩
  · exact inv_acc_pc h hacc (.callCb _) nofun (fun _ => id) nofun
  -- callCb c
  · exact inv_acc_pc (inv_conn_irrelevant h _ _ _ _) hacc (.inCb _) nofun (fun _ => id) nofun
  · exact inv_acc_pc h hacc (.track _) nofun (fun _ => id) nofun
  -- inCb c: rejected and closed; or accepted
  · have ⟨hi, hf, hq⟩ := h.accC _ (congrArg accConn hacc)
    exact inv_setC (inv_acc_pc h hacc .accept nofun nofun nofun) hf.cinv_rejected rfl rfl fun _ => .inr ⟨hi, hq, nofun⟩
  · exact inv_acc_pc h hacc (.track _) nofun (fun _ => id) nofun
  -- track c: the mutex is held; trackConn refuses because the server has been shut down; trackConn adds c
  · exact h
  · have ⟨hi, hf, hq⟩ := h.accC _ (congrArg accConn hacc)
    exact inv_setC (inv_acc_return h false rfl) hf.cinv_refused rfl rfl fun _ => .inr ⟨hi, hq, nofun⟩
  · have ⟨hi, hf, hq⟩ := h.accC _ (congrArg accConn hacc)
    -- Shutdown has not been called, so no sweep can miss the new member of the map
    have hnc : s.sd = .notCalled := Decidable.byContradiction fun e => ‹¬s.isShutdown = true› (h.shut.2 e)
    exact inv_conn_upd cfg _ _ _ 1 (inv_acc_pc h hacc .accept nofun nofun nofun) hf.cinv_tracked
      (fun _ => .inr ⟨hi, hq, nofun⟩) (by simp [Counted, hf.pc]) (fun _ => .inr hnc)
      (fun e => nomatch hf.map.symm.trans e)
  -- returned
  · exact h

theorem inv_step (cfg : Cfg) (s : St) (l : Step) (h : Inv cfg s) : Inv cfg (step cfg s l) := by
  cases l with
  | clientConnect c => exact inv_clientConnect cfg s c h
  | clientSend c r k =>
    simp only [step]
    split
    · exact inv_conn_irrelevant h c _ _ _
    · exact h
  | clientClose c => exact inv_conn_irrelevant h c _ _ _
  | ctxCancel => exact { h with lisC := fun _ => .inr (.inl rfl) }
  | afterFunc =>
    simp only [step]
    split
    · next hc => exact { h with lis := fun _ _ => rfl, lisC := fun _ => .inr (.inl (Bool.and_eq_true_iff.1 hc).1) }
    · exact h
  -- `Inv` does not read `sdCtxExpired`: every clause for the new state unfolds to the clause for `s`
  | sdCtxExpire => exact { h with }
  | acc => exact inv_acc cfg s h
  | conn c => exact inv_conn cfg s c h
  | shutdownCall => exact inv_shutdownCall cfg s h
  | shutdownScan c => exact inv_shutdownScan cfg s c h
  | shutdownTick => exact inv_shutdownTick cfg s h

theorem inv_run (cfg : Cfg) (s : St) (sched : List Step) (h : Inv cfg s) : Inv cfg (run cfg s sched) :=
  List.foldlRecOn sched (step cfg) h fun s hs l _ => inv_step cfg s l hs

end Modbus.Lemmas.ServerLife
