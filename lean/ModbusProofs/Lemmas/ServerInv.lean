import ModbusProofs.Lemmas.ServerLife
/-
  The global invariant of the server lifecycle model, and what it takes to keep it for the three kinds of move: a
  rewrite of one connection record, a move of the accept loop, a move of Shutdown.
-/
namespace Modbus.Lemmas.ServerLife
open Modbus.Model.ServerLife

structure Inv (cfg : Cfg) (s : St) : Prop where
  /-- a client connects once -/
  nodup : s.ids.Nodup
  qnodup : s.queue.Nodup
  /-- what waits in the listen backlog has connected and the server has not touched it -/
  qsub : ∀ c ∈ s.queue, c ∈ s.ids ∧ Fresh (s.conns c)
  /-- the connection that `Accept` has returned and trackConn has not seen yet: out of the backlog, still untouched -/
  accC : ∀ c, accConn s.acc = some c → c ∈ s.ids ∧ Fresh (s.conns c) ∧ c ∉ s.queue
  /-- the server knows nothing of a client that has not connected -/
  fresh : ∀ c, c ∉ s.ids → Fresh (s.conns c)
  cinv : ∀ c, CInv cfg (s.conns c)
  /-- exact accounting -/
  count : s.count = (liveCount s : Int)
  /-- `isShutdown` is stored by the first call of Shutdown and never cleared -/
  shut : s.isShutdown = true ↔ s.sd ≠ .notCalled
  /-- the sweep of Shutdown: what is left to look at is in the map, and (while everything seen was idle)
  everything in the map is still to be looked at -/
  remMap : ∀ rem ai, s.sd = .sweeping rem ai → rem.Nodup ∧ ∀ c ∈ rem, (s.conns c).inMap = true
  /-- the second half: nothing enters the map during a sweep (trackConn needs `s.mu`), so an all-idle sweep empties it -/
  sweep : ∀ rem ai, s.sd = .sweeping rem ai → ai = true → ∀ c ∈ s.ids, (s.conns c).inMap = true → c ∈ rem
  /-- a Shutdown that returned without giving up (nil, or the listener error of a repeated call) has swept everything -/
  retOk : ∀ r, s.sd = .returned r → r ≠ .ctxErr → ∀ c, (s.conns c).inMap = false
  /-- Shutdown closes `s.listener` if `serve` has registered it; `serve` does not register it after Shutdown -/
  lis : s.isShutdown = true → s.listenerSet = true → s.listenerOpen = false
  /-- who closes the listener: Shutdown, the cancelled context (AfterFunc, or the check after `Accept`), `serve` returning -/
  lisC : s.listenerOpen = false → s.isShutdown = true ∨ s.ctxCancelled = true ∨ ∃ r, s.acc = .returned r
  /-- `serve` returns ErrServerClosed only -/
  accRet : ∀ r, s.acc = .returned r → r = .closed

theorem fresh_default : Fresh ({} : Conn) := ⟨rfl, rfl, rfl, rfl, rfl, rfl, rfl, rfl⟩

theorem inv_init (cfg : Cfg) : Inv cfg init where
  nodup := List.nodup_nil
  qnodup := List.nodup_nil
  qsub := nofun
  accC := nofun
  fresh := fun _ _ => fresh_default
  cinv := fun _ => fresh_default.cinv
  count := rfl
  shut := ⟨nofun, (absurd rfl ·)⟩
  remMap := nofun
  sweep := nofun
  retOk := nofun
  lis := nofun
  lisC := nofun
  accRet := nofun

theorem Inv.mem_ids {cfg : Cfg} {s : St} (h : Inv cfg s) (c : Nat) (hp : (s.conns c).pc ≠ .notStarted) : c ∈ s.ids :=
  Decidable.byContradiction fun hc => hp (h.fresh c hc).pc

theorem Inv.inMap_ids {cfg : Cfg} {s : St} (h : Inv cfg s) {c : Nat} (hm : (s.conns c).inMap = true) : c ∈ s.ids :=
  h.mem_ids c ((h.cinv c).started_of_inMap hm)

theorem Inv.lisC_running {cfg : Cfg} {s : St} (h : Inv cfg s) (hacc : ∀ r, s.acc ≠ .returned r) (hl : s.listenerOpen = false) :
    s.isShutdown = true ∨ s.ctxCancelled = true :=
  (h.lisC hl).imp id (·.resolve_right fun ⟨r, e⟩ => hacc r e)

theorem muFree_of_not_sweeping {s : St} (h : ∀ rem ai, s.sd ≠ .sweeping rem ai) : s.muFree = true := by
  unfold St.muFree
  cases hs : s.sd with
  | sweeping rem ai => exact absurd hs (h rem ai)
  | _ => rfl

theorem not_sweeping_of_muFree {s : St} (h : s.muFree = true) (rem : List Nat) (ai : Bool) : s.sd ≠ .sweeping rem ai := by
  intro hs
  simp [St.muFree, hs] at h

theorem mem_inMapIds {s : St} {c : Nat} : c ∈ s.inMapIds ↔ c ∈ s.ids ∧ (s.conns c).inMap = true := by
  simp [St.inMapIds]

theorem updC_forall {P : Nat → Conn → Prop} {f : Nat → Conn} {c : Nat} {v : Conn} (hc : P c v)
    (ho : ∀ d, d ≠ c → P d (f d)) (d : Nat) : P d (updC f c v d) := by
  by_cases hdc : d = c
  · rw [hdc, updC_same]; exact hc
  · rw [updC_other _ _ _ _ hdc]; exact ho d hdc

/-- `hF`: a connection that has to be fresh (not yet in `ids`, in the backlog, or in the hands of the accept loop) stays so.
`hM`: nothing enters the map once Shutdown has been called. `hM2`: nothing leaves the map while a sweep has it on
its list (the goroutine needs the mutex; Shutdown takes it off the list in the same step). -/
theorem inv_conn_upd (cfg : Cfg) (s : St) (c : Nat) (v : Conn) (δ : Int) (h : Inv cfg s)
    (hC : CInv cfg v)
    (hF : Fresh (s.conns c) → Fresh v ∨ (c ∈ s.ids ∧ c ∉ s.queue ∧ accConn s.acc ≠ some c))
    (hδ : δ = (if Counted v then (1 : Int) else 0) - (if Counted (s.conns c) then 1 else 0))
    (hM : v.inMap = true → (s.conns c).inMap = true ∨ s.sd = .notCalled)
    (hM2 : (s.conns c).inMap = true → v.inMap = true ∨ ∀ rem ai, s.sd = .sweeping rem ai → c ∉ rem) :
    Inv cfg { (s.setC c v) with count := s.count + δ } := by
  have hFr : ∀ d, (d ∉ s.ids ∨ d ∈ s.queue ∨ accConn s.acc = some d) → Fresh (s.conns d) → Fresh (updC s.conns c v d) :=
    updC_forall (P := fun d x => _ → Fresh (s.conns d) → Fresh x)
      (fun hd hf => (hF hf).resolve_right fun ⟨h1, h2, h3⟩ => hd.elim (· h1) (·.elim h2 h3))
      (fun _ _ _ hf => hf)
  have hI : ∀ d, (updC s.conns c v d).inMap = true → (s.conns d).inMap = true ∨ s.sd = .notCalled :=
    updC_forall (P := fun d x => x.inMap = true → (s.conns d).inMap = true ∨ _) hM fun _ _ => .inl
  exact { h with
    qsub := fun d hd => ⟨(h.qsub d hd).1, hFr d (.inr (.inl hd)) (h.qsub d hd).2⟩
    accC := fun d hd => ⟨(h.accC d hd).1, hFr d (.inr (.inr hd)) (h.accC d hd).2.1, (h.accC d hd).2.2⟩
    fresh := fun d hd => hFr d (.inl hd) (h.fresh d hd)
    cinv := updC_forall (P := fun _ x => CInv cfg x) hC fun d _ => h.cinv d
    count := by
      show s.count + δ = ((liveCount (s.setC c v) : Nat) : Int)
      rw [hδ, h.count]
      by_cases hc : c ∈ s.ids
      · exact (liveCount_setC h.nodup hc v).symm
      · -- outside `ids` the record was fresh and stays fresh: not counted before or after
        have hf := h.fresh c hc
        simp [liveCount_setC_notMem hc, Counted, hf.pc, ((hF hf).resolve_right fun hx => hc hx.1).pc]
    remMap := fun rem ai hs => ⟨(h.remMap rem ai hs).1, fun d hd =>
      updC_forall (P := fun d x => d ∈ rem → x.inMap = true)
        (fun hc => (hM2 ((h.remMap rem ai hs).2 c hc)).resolve_right fun hx => hx rem ai hs hc)
        (fun d _ hd => (h.remMap rem ai hs).2 d hd) d hd⟩
    sweep := fun rem ai hs ha d hd hm => (hI d hm).elim (h.sweep rem ai hs ha d hd) fun e => nomatch hs.symm.trans e
    retOk := fun r hs hr d => Bool.eq_false_iff.2 fun hm =>
      (hI d hm).elim (fun e => nomatch (h.retOk r hs hr d).symm.trans e) fun e => nomatch hs.symm.trans e }

theorem setC_count_zero (s : St) (c : Nat) (v : Conn) : ({ (s.setC c v) with count := s.count + 0 } : St) = s.setC c v := by
  simp [St.setC]

theorem inv_setC {cfg : Cfg} {s : St} {c : Nat} {v : Conn} (h : Inv cfg s) (hC : CInv cfg v)
    (hpc : v.pc = (s.conns c).pc) (hmap : v.inMap = (s.conns c).inMap)
    (hF : Fresh (s.conns c) → Fresh v ∨ (c ∈ s.ids ∧ c ∉ s.queue ∧ accConn s.acc ≠ some c)) : Inv cfg (s.setC c v) :=
  have e : Counted v = Counted (s.conns c) := by simp only [Counted, hpc]
  setC_count_zero s c v ▸ inv_conn_upd cfg s c v 0 h hC hF (e ▸ (Int.sub_self _).symm) (hmap ▸ .inl) (hmap ▸ .inl)

/-- a rewrite of fields the invariant does not mention -/
theorem inv_conn_irrelevant {cfg : Cfg} {s : St} (h : Inv cfg s) (c : Nat) (co : Bool) (ib : List (Nat × Kind))
    (aa : Option Int) : Inv cfg (s.setC c { s.conns c with clientOpen := co, inbox := ib, acceptArg := aa }) :=
  -- `CInv` and `Fresh` read none of the three fields: each clause for the new record unfolds to the clause for the old,
  -- so `{ · with }` retypes the proof
  inv_setC h { h.cinv c with } rfl rfl fun hf => .inl { hf with }

theorem inv_acc_pc {cfg : Cfg} {s : St} (h : Inv cfg s) {a0 : APc} (hacc : s.acc = a0) (a : APc)
    (h0 : ∀ r, a0 ≠ .returned r) (ha : ∀ c, accConn a = some c → accConn a0 = some c) (hn : ∀ r, a ≠ .returned r) :
    Inv cfg { s with acc := a } :=
  { h with
    accC := fun c e => h.accC c (hacc ▸ ha c e)
    lisC := fun e => (h.lisC_running (hacc ▸ h0) e).imp id .inl
    accRet := fun r e => absurd e (hn r) }

/-- Serve returns ErrServerClosed, with the listener closed. `lo` is a parameter so that the states of both kinds of
return fit without rewriting: `listenerOpen := false` where `serve` closes the listener, and the unchanged
`s.listenerOpen` where it finds it closed. -/
theorem inv_acc_return {cfg : Cfg} {s : St} (h : Inv cfg s) (lo : Bool) (hlo : lo = false) :
    Inv cfg { s with listenerOpen := lo, acc := .returned .closed } :=
  { h with
    accC := nofun
    lis := fun _ _ => hlo
    lisC := fun _ => .inr (.inr ⟨_, rfl⟩)
    accRet := fun _ e => (APc.returned.inj e) ▸ rfl }

/-- what `remMap`, `sweep` and `retOk` ask of the program counter of Shutdown once the flag is set: a sweep has
still to look at connections of the map only, and at all of them while everything seen was idle; a return other than
the context's error leaves the map empty -/
def SdOk (s : St) : SPc → Prop
  | .notCalled => False
  | .sweeping rem ai => rem.Nodup ∧ (∀ c ∈ rem, (s.conns c).inMap = true) ∧
      (ai = true → ∀ c ∈ s.ids, (s.conns c).inMap = true → c ∈ rem)
  | .returned r => r ≠ .ctxErr → ∀ c, (s.conns c).inMap = false

theorem inv_sd_move {cfg : Cfg} {s : St} (h : Inv cfg s) (hs : s.isShutdown = true) {sd' : SPc} (hok : SdOk s sd') :
    Inv cfg { s with sd := sd' } :=
  { h with
    shut := ⟨fun _ (e : sd' = _) => (e ▸ hok : SdOk s .notCalled), fun _ => hs⟩
    remMap := fun rem ai (e : sd' = _) => have hok : SdOk s (.sweeping rem ai) := e ▸ hok; ⟨hok.1, hok.2.1⟩
    sweep := fun rem ai (e : sd' = _) => (e ▸ hok : SdOk s (.sweeping rem ai)).2.2
    retOk := fun r (e : sd' = _) => (e ▸ hok : SdOk s (.returned r)) }

theorem Inv.newSweep {cfg : Cfg} {s : St} (h : Inv cfg s) : SdOk s (.sweeping s.inMapIds true) :=
  ⟨h.nodup.filter _, fun _ hc => (mem_inMapIds.1 hc).2, fun _ _ hc hm => mem_inMapIds.2 ⟨hc, hm⟩⟩

end Modbus.Lemmas.ServerLife
