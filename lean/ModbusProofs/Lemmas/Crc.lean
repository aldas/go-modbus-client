import Modbus.Model.Response
import Modbus.Spec.Crc
import ModbusProofs.Lemmas.Run
/-
  `CRC16` of the code (a byte-wise fold over a 16-bit state) is the bit-serial CRC-16/MODBUS of the specification;
  the trailer comparison of the `…WithCRC` entry points (`crcMatches`) in terms of the CRC's two bytes; the check in
  front of the two `…WithCRC` dispatchers (`crcGuard`), with the lemmas through which it is used.
-/
namespace Modbus.Lemmas
open Modbus.Model

theorem crcBit_xor (c d : BitVec 16) :
    crcBit (c ^^^ d) = Spec.crcStep c (d.getLsbD 0) ^^^ (d >>> 1) := by
  unfold crcBit Spec.crcStep
  rw [BitVec.getLsbD_xor, BitVec.ushiftRight_xor_distrib]
  cases hc : c.getLsbD 0 <;> cases hd : d.getLsbD 0 <;> simp <;> ac_rfl

theorem crcByte_eq (c : BitVec 16) (b : UInt8) :
    crcByte c b = (Spec.bitsOfByte b).foldl Spec.crcStep c := by
  unfold crcByte Spec.bitsOfByte
  simp only [List.foldl]
  generalize hd : b.toBitVec.setWidth 16 = d
  rw [crcBit_xor, crcBit_xor, crcBit_xor, crcBit_xor, crcBit_xor, crcBit_xor, crcBit_xor, crcBit_xor]
  simp only [← BitVec.shiftRight_add, BitVec.getLsbD_ushiftRight, Nat.add_zero]
  have h8 : d >>> 8 = 0#16 := by rw [← hd]; ext i hi; simp [BitVec.getLsbD_setWidth]
  simp only [Nat.reduceAdd, h8, BitVec.xor_zero]
  subst hd
  simp only [BitVec.getLsbD_setWidth, Nat.reduceLT, decide_true, Bool.true_and]

theorem crcBV_fold (data : Bytes) (c : BitVec 16) :
    data.foldl crcByte c = (data.flatMap Spec.bitsOfByte).foldl Spec.crcStep c := by
  induction data generalizing c with
  | nil => rfl
  | cons b rest ih =>
    simp only [List.foldl_cons, List.flatMap_cons, List.foldl_append]
    rw [ih, crcByte_eq]

theorem crcBV_eq_spec (data : Bytes) : (crc16 data).toBitVec = Spec.crc data := by
  unfold crc16 crcBV Spec.crc Spec.crcBits
  exact crcBV_fold data _

theorem crcMatches_iff (body : Bytes) (l h : UInt8) :
    crcMatches (body ++ [l, h]) = true ↔ (l = lo8 (crc16 body) ∧ h = hi8 (crc16 body)) := by
  unfold crcMatches
  simp [le16_eq_iff]

/-- The check in front of the two `…WithCRC` dispatchers: too short to carry a CRC, then the trailer, then the dispatcher.
By definition `parseRTURequestWithCRC s = crcGuard s.vis (parseRTURequest s)`, and likewise for responses, so the lemmas
below apply to both as they stand (with `exact`; `rw` does not see through the definition: `change` first). -/
def crcGuard {α : Type} (v : Bytes) (inner : PRes α) : PRes α :=
  if v.length < 4 then .err .plain else if !crcMatches v then .err .badCRC else inner

section
variable {α : Type} {v : Bytes} {inner : PRes α}

theorem crcGuard_short (h : v.length < 4) : crcGuard v inner = .err .plain := if_pos h

theorem crcGuard_eq (h : 4 ≤ v.length) : crcGuard v inner = if crcMatches v then inner else .err .badCRC := by
  rw [crcGuard, if_neg (Nat.not_lt.2 h)]
  cases crcMatches v <;> rfl

theorem crcGuard_pass (h : 4 ≤ v.length) (hc : crcMatches v = true) : crcGuard v inner = inner := by
  rw [crcGuard_eq h, if_pos hc]

theorem crcGuard_bad (hc : crcMatches v ≠ true) : crcGuard v inner = .err .plain ∨ crcGuard v inner = .err .badCRC :=
  (Nat.lt_or_ge v.length 4).imp crcGuard_short fun h => by rw [crcGuard_eq h, if_neg hc]

theorem crcGuard_eq_ok {a : α} : crcGuard v inner = .ok a ↔ 4 ≤ v.length ∧ crcMatches v = true ∧ inner = .ok a := by
  refine ⟨fun h => ?_, fun ⟨h4, hc, hi⟩ => (crcGuard_pass h4 hc).trans hi⟩
  by_cases hc : crcMatches v = true
  · by_cases h4 : 4 ≤ v.length
    · exact ⟨h4, hc, (crcGuard_pass h4 hc).symm.trans h⟩
    · rw [crcGuard_short (Nat.not_le.1 h4)] at h; cases h
  · rcases crcGuard_bad (inner := inner) hc with e | e <;> rw [e] at h <;> cases h

/-- on a frame long enough the answer is `ErrInvalidCRC` exactly when the trailer is not the CRC of the rest, provided the
dispatcher behind the check never returns that error itself -/
theorem crcGuard_badCRC_iff (hin : inner ≠ .err .badCRC) (body : Bytes) (l h : UInt8) (hlen : 2 ≤ body.length) :
    crcGuard (body ++ [l, h]) inner = .err .badCRC ↔ ¬ (l = lo8 (crc16 body) ∧ h = hi8 (crc16 body)) := by
  rw [crcGuard_eq (by simp; omega), ← crcMatches_iff]
  split
  · exact ⟨fun e => absurd e hin, fun e => absurd ‹_› e⟩
  · exact ⟨fun _ => ‹_›, fun _ => rfl⟩

/-- the check as a rule of the program logic: it looks at the visible bytes only, and adds two errors of its own -/
theorem Run.crcGuard {P : α → Prop} {E : PErr → Prop} {x y : PRes α} (h : Run P E x y) :
    Run P (fun _ => True) (crcGuard v x) (crcGuard v y) :=
  .ite (fun _ => .fail trivial) fun _ => .ite (fun _ => .fail trivial) fun _ => h.mono (fun _ h => h) fun _ _ => trivial

end

end Modbus.Lemmas
