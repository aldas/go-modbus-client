import ModbusProofs.Lemmas.Response
/-
  Encode → parse round trips of response values, per shape of parser.
-/
namespace Modbus.Lemmas
open Modbus Modbus.Model

/-- response values the parsers return unchanged -/
def Resp.WF : Resp → Prop
  | .bits fc _ bl d => (fc = 1 ∨ fc = 2) ∧ bl.toNat = d.length ∧ 1 ≤ d.length
  | .regs fc _ bl d => (fc = 3 ∨ fc = 4 ∨ fc = 23) ∧ bl.toNat = d.length ∧ 2 ≤ d.length
  | .wcoil .. => True
  | .wreg .. => True
  | .wmulti fc .. => fc = 15 ∨ fc = 16
  | .sid _ _ id _ => 1 ≤ id.length ∧ id.length ≤ 255

theorem rt_bytecount_tcp (mk : UInt8 → UInt8 → Bytes → Resp) (fc : UInt8) (minLen : Nat) (tid : UInt16)
    (u bl : UInt8) (d : Bytes) (hpdu : (mk u bl d).pdu = [u, fc, bl] ++ d)
    (hbl : bl.toNat = d.length) (hmin : minLen ≤ 9 + d.length) (sp : Bytes) :
    parseByteCountRespTCP mk minLen ⟨(mk u bl d).bytesTCP tid, sp⟩ = .ok (tid, mk u bl d) := by
  generalize hv : (mk u bl d).bytesTCP tid = v
  obtain ⟨hl, h8, h0, h6, hd⟩ : v.length = 9 + d.length ∧ (v.getD 8 0).toNat = d.length ∧
      be16 (v.getD 0 0) (v.getD 1 0) = tid ∧ mk (v.getD 6 0) (v.getD 8 0) = mk u bl ∧ (v.drop 9).take d.length = d := by
    subst hv; simp [Resp.bytesTCP, hpdu, mbap, put16, hbl]; omega
  refine Run.eq_ok ?_
  unfold parseByteCountRespTCP; dsimp only; run_walk
  · omega
  · omega
  · rw [h0, h6, h8, Nat.add_sub_cancel_left, hd]

theorem rt_bytecount_rtu (mk : UInt8 → UInt8 → Bytes → Resp) (fc : UInt8) (minLen : Nat)
    (u bl : UInt8) (d : Bytes) (hpdu : (mk u bl d).pdu = [u, fc, bl] ++ d)
    (hbl : bl.toNat = d.length) (hmin : minLen ≤ 5 + d.length) (l h : UInt8) (sp : Bytes) :
    parseByteCountRespRTU mk minLen ⟨(mk u bl d).pdu ++ [l, h], sp⟩ = .ok (mk u bl d) := by
  generalize hv : (mk u bl d).pdu ++ [l, h] = v
  obtain ⟨hl, h2, h0, hd⟩ : v.length = 5 + d.length ∧ (v.getD 2 0).toNat = d.length ∧
      mk (v.getD 0 0) (v.getD 2 0) = mk u bl ∧ (v.drop 3).take d.length = d := by
    subst hv; simp [hpdu, hbl]; omega
  refine Run.eq_ok ?_
  unfold parseByteCountRespRTU; dsimp only; run_walk
  · omega
  · omega
  · rw [h0, h2, Nat.add_sub_cancel_left, hd]

theorem u16_6 : (UInt16.ofNat 6).toNat = 6 := by decide

theorem rt_fixed_tcp {mk : UInt8 → Slice → PRes Resp} (tid : UInt16) (r : Resp) (u : UInt8) (p : Bytes)
    (hp : r.pdu = u :: p) (hl : p.length = 5) (sp : Bytes) (hmk : mk u ⟨r.bytesTCP tid, sp⟩ = .ok r) :
    parseFixedRespTCP mk ⟨r.bytesTCP tid, sp⟩ = .ok (tid, r) := by
  generalize hv : r.bytesTCP tid = v at hmk ⊢
  obtain ⟨hlen, h4, h0, h6⟩ : v.length = 12 ∧ (be16 (v.getD 4 0) (v.getD 5 0)).toNat = 6 ∧
      be16 (v.getD 0 0) (v.getD 1 0) = tid ∧ v.getD 6 0 = u := by
    subst hv; simp [Resp.bytesTCP, hp, hl, mbap, put16]
  refine Run.eq_ok ?_
  unfold parseFixedRespTCP; dsimp only; run_walk
  · omega
  · rename_i hg; rw [h4] at hg; omega
  · rw [h6, hmk, h0]; exact .ret rfl

theorem rt_fixed_rtu {mk : UInt8 → Slice → PRes Resp} (r : Resp) (u : UInt8) (p : Bytes)
    (hp : r.pdu = u :: p) (hl : p.length = 5) (l h : UInt8) (sp : Bytes)
    (hmk : mk u ⟨r.pdu ++ [l, h], sp⟩ = .ok r) : parseFixedRespRTU mk ⟨r.pdu ++ [l, h], sp⟩ = .ok r := by
  unfold parseFixedRespRTU; dsimp only
  have hlen : (r.pdu ++ [l, h]).length = 8 := by simp [hp, hl]
  rw [if_neg (by omega), if_neg (by omega), idx_eq _ sp 0 (by omega), Res.bind_ok]
  simpa [hp] using hmk

/-- well-formed response values of the nine functions other than FC17 -/
def Resp.WF9 : Resp → Prop
  | .sid .. => False
  | r => Resp.WF r

/-- in both framings at once: the case analysis and the shape of the PDU are the same -/
theorem rt_resp_fc (r : Resp) (h : Resp.WF9 r) (sp : Bytes) :
    (∀ tid, parseRespTCPfc r.fc ⟨r.bytesTCP tid, sp⟩ = .ok (tid, r)) ∧
    ∀ l hh, parseRespRTUfc r.fc ⟨r.pdu ++ [l, hh], sp⟩ = .ok r := by
  cases r with
  | bits fc u bl d =>
    obtain ⟨hfc, hbl, hd⟩ := h
    have hpdu : (Resp.bits fc u bl d).pdu = [u, fc, bl] ++ d := by
      simp [Resp.pdu, ← hbl]
    rcases hfc with rfl | rfl <;>
      exact ⟨fun tid => rt_bytecount_tcp (Resp.bits _) _ 10 tid u bl d hpdu hbl (by omega) sp,
        fun l hh => rt_bytecount_rtu (Resp.bits _) _ 6 u bl d hpdu hbl (by omega) l hh sp⟩
  | regs fc u bl d =>
    obtain ⟨hfc, hbl, hd⟩ := h
    have hpdu : (Resp.regs fc u bl d).pdu = [u, fc, bl] ++ d := by
      simp [Resp.pdu, hbl]
    rcases hfc with rfl | rfl | rfl <;>
      exact ⟨fun tid => rt_bytecount_tcp (Resp.regs _) _ 11 tid u bl d hpdu hbl (by omega) sp,
        fun l hh => rt_bytecount_rtu (Resp.regs _) _ 7 u bl d hpdu hbl (by omega) l hh sp⟩
  | wcoil u a s =>
    refine ⟨fun tid => rt_fixed_tcp tid (.wcoil u a s) u _ rfl rfl sp ?_,
      fun l hh => rt_fixed_rtu (.wcoil u a s) u _ rfl rfl l hh sp ?_⟩
    · rw [mkWCoilResp_eq _ _ _ _ (Nat.le_refl 12)]
      cases s <;> simp [Resp.bytesTCP, Resp.pdu, mbap, put16]
    · rw [mkWCoilResp_eq _ _ _ _ (Nat.le_add_right 6 2)]
      cases s <;> simp [Resp.pdu, put16]
  | wreg u a d0 d1 =>
    refine ⟨fun tid => rt_fixed_tcp tid (.wreg u a d0 d1) u _ rfl rfl sp ?_,
      fun l hh => rt_fixed_rtu (.wreg u a d0 d1) u _ rfl rfl l hh sp ?_⟩
    · rw [mkWRegResp_eq _ _ _ _ (Nat.le_refl 12)]
      simp [Resp.bytesTCP, Resp.pdu, mbap, put16]
    · rw [mkWRegResp_eq _ _ _ _ (Nat.le_add_right 6 2)]
      simp [Resp.pdu, put16]
  | wmulti fc u a c =>
    rcases h with rfl | rfl <;>
    · refine ⟨fun tid => rt_fixed_tcp tid (.wmulti _ u a c) u _ rfl rfl sp ?_,
        fun l hh => rt_fixed_rtu (.wmulti _ u a c) u _ rfl rfl l hh sp ?_⟩
      · rw [mkWMultiResp_eq _ _ _ _ _ (Nat.le_refl 12)]
        simp [Resp.bytesTCP, Resp.pdu, mbap, put16]
      · rw [mkWMultiResp_eq _ _ _ _ _ (Nat.le_add_right 6 2)]
        simp [Resp.pdu, put16]
  | sid u st id add => exact absurd h (by simp [Resp.WF9])

/-! read server id (FC17), in the library's layout: id length, id bytes, run status, optional additional data -/

theorem rt_sid_tcp (tid : UInt16) (len : UInt16) (u st bl : UInt8) (id t : Bytes)
    (hbl : bl.toNat = id.length) (h1 : 1 ≤ id.length) (sp : Bytes) :
    parseSidRespTCP ⟨mbap tid len ++ ([u, 17, bl] ++ id ++ [st] ++ t), sp⟩ =
      .ok (tid, .sid u st id (if t = [] then none else some t)) := by
  generalize hv : mbap tid len ++ ([u, 17, bl] ++ id ++ [st] ++ t) = v
  obtain ⟨hl, h8, h0, h6, hid, hst, ht⟩ : v.length = 10 + id.length + t.length ∧ v.getD 8 0 = bl ∧
      be16 (v.getD 0 0) (v.getD 1 0) = tid ∧ v.getD 6 0 = u ∧ (v.drop 9).take id.length = id ∧
      v.getD (8 + id.length + 1) 0 = st ∧ v.drop (8 + id.length + 1 + 1) = t := by
    subst hv
    have e : ∀ k, 8 + id.length + k = id.length + k + 8 := fun k => by omega
    simp [mbap, put16, e, List.getD_eq_getElem?_getD]
    omega
  have hb0 : bl ≠ 0 := fun e => by rw [e] at hbl; exact absurd hbl (by have : (0 : UInt8).toNat = 0 := rfl; omega)
  unfold parseSidRespTCP; dsimp only
  rw [if_neg (by omega), idx_eq v sp 8 (by omega), Res.bind_ok, h8, if_neg hb0, hbl, if_neg (by omega),
    bytes_eq v sp 9 _ (by omega) (by omega), Res.bind_ok, idx_eq v sp _ (by omega), Res.bind_ok,
    Nat.add_sub_cancel_left, hid, hst]
  by_cases he : t = []
  · rw [he, List.length_nil] at hl
    rw [if_neg (by omega), Res.bind_ok, rd16_eq v sp 0 (by omega), Res.bind_ok,
      idx_eq v sp 6 (by omega), Res.bind_ok, h0, h6, if_pos he]
  · have : 0 < t.length := List.length_pos_iff.2 he
    rw [if_pos (by omega), from_eq v sp _ (by omega), Res.bind_ok, Res.bind_ok, rd16_eq v sp 0 (by omega), Res.bind_ok,
      idx_eq v sp 6 (by omega), Res.bind_ok, h0, h6, if_neg he, ht]

theorem rt_sid_rtu (u st bl l h : UInt8) (id t : Bytes)
    (hbl : bl.toNat = id.length) (h1 : 1 ≤ id.length) (sp : Bytes) :
    parseSidRespRTU ⟨[u, 17, bl] ++ id ++ [st] ++ t ++ [l, h], sp⟩ = .ok (.sid u st id (some t)) := by
  generalize hv : [u, 17, bl] ++ id ++ [st] ++ t ++ [l, h] = v
  obtain ⟨hl, h2, h0, hid, hst, ht⟩ : v.length = 6 + id.length + t.length ∧ v.getD 2 0 = bl ∧ v.getD 0 0 = u ∧
      (v.drop 3).take id.length = id ∧ v.getD (2 + id.length + 1) 0 = st ∧
      (v.drop (2 + id.length + 1 + 1)).take t.length = t := by
    subst hv
    have e : ∀ k, 2 + id.length + k = id.length + k + 2 := fun k => by omega
    simp [e, List.getD_eq_getElem?_getD]
    omega
  have hb0 : bl ≠ 0 := fun e => by rw [e] at hbl; exact absurd hbl (by have : (0 : UInt8).toNat = 0 := rfl; omega)
  unfold parseSidRespRTU; dsimp only
  rw [if_neg (by omega), idx_eq v sp 2 (by omega), Res.bind_ok, h2, if_neg hb0, hbl, if_neg (by omega),
    bytes_eq v sp 3 _ (by omega) (by omega), Res.bind_ok, idx_eq v sp _ (by omega), Res.bind_ok,
    Nat.add_sub_cancel_left, hid, hst, if_pos (by omega), bytes_eq v sp _ _ (by omega) (by omega), Res.bind_ok,
    Res.bind_ok, idx_eq v sp 0 (by omega), Res.bind_ok, h0,
    show v.length - 2 - (2 + id.length + 1 + 1) = t.length by omega, ht]

end Modbus.Lemmas
