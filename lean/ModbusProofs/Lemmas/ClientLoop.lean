import Modbus.Model.ClientLoop
import ModbusProofs.Lemmas.Response
/-
  The client read loop (client.go / serialclient.go `do`) and the call around it: fragmentation, faults, hooks.

  One iteration is `stepOut`. What the loop can return on any script follows from `readLoop_trace` with `Stops`; what it
  does return on a given script is proved by induction over the script from `readLoop_delivers`.
-/
namespace Modbus.Lemmas
open Modbus.Model

/-- `script` delivers exactly the bytes `b`, cut into non-empty reads in any way, with any number of
timed-out reads in between, followed by anything -/
inductive Frag : Bytes → List Ev → Prop
  | done (rest : List Ev) : Frag [] rest
  | timeout {b : Bytes} {s : List Ev} : Frag b s → Frag b (.timeout :: s)
  | data {b : Bytes} {s : List Ev} (c : Bytes) : c ≠ [] → Frag b s → Frag (c ++ b) (.data c :: s)
  /-- a read that delivers bytes together with a deadline error (io.Reader allows both at once) -/
  | tdata {b : Bytes} {s : List Ev} (c : Bytes) : c ≠ [] → Frag b s → Frag (c ++ b) (.tdata c :: s)

/-- the serial line: as `Frag`, and the port may also report its own read timeout as "no bytes, end of stream"
(`(0, io.EOF)`), any number of times, before, inside and after the reply -/
inductive FragSerial : Bytes → List Ev → Prop
  | done (rest : List Ev) : FragSerial [] rest
  | timeout {b : Bytes} {s : List Ev} : FragSerial b s → FragSerial b (.timeout :: s)
  | eofEmpty {b : Bytes} {s : List Ev} : FragSerial b s → FragSerial b (.eof [] :: s)
  | data {b : Bytes} {s : List Ev} (c : Bytes) : c ≠ [] → FragSerial b s → FragSerial (c ++ b) (.data c :: s)
  | tdata {b : Bytes} {s : List Ev} (c : Bytes) : c ≠ [] → FragSerial b s → FragSerial (c ++ b) (.tdata c :: s)

theorem Frag.toSerial {b : Bytes} {s : List Ev} (h : Frag b s) : FragSerial b s := by
  induction h with
  | done r => exact .done r
  | timeout _ ih => exact .timeout ih
  | data c hc _ ih => exact .data c hc ih
  | tdata c hc _ ih => exact .tdata c hc ih

/-- the bytes a script of data/timeout events delivers -/
def evData : List Ev → Bytes
  | [] => []
  | .data c :: rest => c ++ evData rest
  | _ :: rest => evData rest

/-- what the transport serves, read by read: the bytes and error tag each `Read` call produced -/
def served (k : ClientKind) : List Ev → Bytes → List (Bytes × String)
  | [], _ => []
  | ev :: rest, acc =>
    let r := ev.read (k.bufLen - acc.length)
    (r.1, r.2.1) :: served k rest (acc ++ r.1)

def servedHook (x : Bytes × String) : HookEv := .afterRead x.1 x.1.length x.2

/-- what has been received after the first `n` reads of a script (starting from `acc`) -/
def receivedAfter (k : ClientKind) (script : List Ev) (acc : Bytes) (n : Nat) : Bytes :=
  acc ++ (((served k script acc).take n).map (·.1)).flatten

theorem receivedAfter_cons (k : ClientKind) (ev : Ev) (rest : List Ev) (acc : Bytes) (n : Nat) :
    receivedAfter k (ev :: rest) acc (n + 1) =
      receivedAfter k rest (acc ++ (ev.read (k.bufLen - acc.length)).1) n := by
  simp [receivedAfter, served]

section
variable {k : ClientKind}

theorem asProtocolError_tcp (hk : k.framing = .tcp) (p : Bytes) :
    asProtocolError k p =
      if p.length = 9 ∧ p.getD 7 0 &&& 128 ≠ 0 then
        some (.excT (be16 (p.getD 0 0) (p.getD 1 0)) (p.getD 6 0) (p.getD 7 0 - 128) (p.getD 8 0))
      else none := by
  rw [asProtocolError, hk]
  dsimp only
  rw [asTCPErrorPacket_eq]
  by_cases h : p.length = 9 ∧ p.getD 7 0 &&& 128 ≠ 0
  · rw [if_pos h, if_pos h]
  · rw [if_neg h, if_neg h]

theorem asProtocolError_rtu (hk : k.framing = .rtu) (p : Bytes) :
    asProtocolError k p =
      if p.length = 5 ∧ crcMatches p = true ∧ p.getD 1 0 &&& 128 ≠ 0 then
        some (.excR (p.getD 0 0) (p.getD 1 0 - 128) (p.getD 2 0))
      else none := by
  rw [asProtocolError, hk]
  dsimp only
  rw [asRTUErrorPacketWithCRC_eq]
  by_cases h : p.length = 5 ∧ crcMatches p = true ∧ p.getD 1 0 &&& 128 ≠ 0
  · rw [if_pos h, if_pos h]
  · rw [if_neg h, if_neg h]

theorem asProtocolError_rtu_crc (hk : k.framing = .rtu) {p : Bytes} {e : PErr}
    (h : asProtocolError k p = some e) : crcMatches p = true := by
  rw [asProtocolError_rtu hk] at h
  split at h
  · rename_i hc; exact hc.2.1
  · cases h

end

/-- what the loop decides after a read that returned `tag` (and `cancelled`) and brought the received bytes to
`acc`: stop with an outcome, or read again -/
def stepOut (k : ClientKind) (fl : Flusher) (expected : Nat) (acc : Bytes) (tag : String) (cancelled : Bool) :
    Option LoopOut :=
  if tag = "io" then some (withFlush k fl (.err .io)) else
  if acc.length > k.maxLen then some (withFlush k fl (.err .tooLong)) else
  match asProtocolError k acc with
  | some e => some (withFlush k fl (.err (.exc e)))
  | none =>
    if acc.length ≥ expected then some (withFlush k fl (if acc.length = 0 then .err .noBytes else .frame acc))
    else if tag = "eof" ∧ k ≠ .serial then some (if acc.length = 0 then .err .noBytes else .frame acc)
    else if cancelled then some (.err .ctx)
    else none

/-- the outcomes with which an iteration can stop, with what the users of the loop need to know of each -/
inductive Stops (k : ClientKind) (expected : Nat) (acc : Bytes) (tag : String) : LoopOut → Prop
  | frame : expected ≤ acc.length ∨ tag = "eof" ∧ k ≠ .serial → Stops k expected acc tag (.frame acc)
  | exc {x : PErr} : asProtocolError k acc = some x → Stops k expected acc tag (.err (.exc x))
  | io : Stops k expected acc tag (.err .io)
  | flush : Stops k expected acc tag (.err .flush)
  | tooLong : Stops k expected acc tag (.err .tooLong)
  | noBytes : Stops k expected acc tag (.err .noBytes)
  | ctx : Stops k expected acc tag (.err .ctx)

/-- `ev` hands `c` to a client of kind `k` with no error that would end the call -/
inductive Delivers (k : ClientKind) : Ev → Bytes → Prop
  | data (c : Bytes) : Delivers k (.data c) c
  | tdata (c : Bytes) : Delivers k (.tdata c) c
  | timeout : Delivers k .timeout []
  | eofEmpty : k = .serial → Delivers k (.eof []) []

section
variable (k : ClientKind) (fl : Flusher) (expected : Nat)

-- The two proofs that walk through the branches of `stepOut` do so with `by_cases` and `if_pos`/`if_neg`: `split`
-- and `split_ifs` cost ten times as much there.
theorem readLoop_cons (ev : Ev) (rest : List Ev) (acc : Bytes) (log : List HookEv) :
    readLoop k fl expected (ev :: rest) acc log =
      let r := ev.read (k.bufLen - acc.length)
      match stepOut k fl expected (acc ++ r.1) r.2.1 r.2.2 with
      | some o => (o, log ++ [servedHook (r.1, r.2.1)])
      | none => readLoop k fl expected rest (acc ++ r.1) (log ++ [servedHook (r.1, r.2.1)]) := by
  rw [readLoop]
  unfold stepOut
  generalize ev.read (k.bufLen - acc.length) = r
  obtain ⟨chunk, tag, c⟩ := r
  dsimp only [servedHook]
  by_cases h1 : tag = "io"
  · rw [if_pos h1, if_pos h1]
  rw [if_neg h1, if_neg h1]
  by_cases h2 : (acc ++ chunk).length > k.maxLen
  · rw [if_pos h2, if_pos h2]
  rw [if_neg h2, if_neg h2]
  cases asProtocolError k (acc ++ chunk)
  · dsimp only
    by_cases h3 : (acc ++ chunk).length ≥ expected
    · rw [if_pos h3, if_pos h3]
    rw [if_neg h3, if_neg h3]
    by_cases h4 : tag = "eof" ∧ k ≠ .serial
    · rw [if_pos h4, if_pos h4]
    rw [if_neg h4, if_neg h4]
    cases c <;> rfl
  · rfl

variable {k fl expected} {acc : Bytes} {tag : String} {c : Bool}

theorem Stops.withFlush {o : LoopOut} (h : Stops k expected acc tag o) :
    Stops k expected acc tag (withFlush k fl o) := by
  unfold Model.withFlush
  split
  · exact .flush
  · exact h

theorem stepOut_stops {o : LoopOut} (h : stepOut k fl expected acc tag c = some o) : Stops k expected acc tag o := by
  unfold stepOut at h
  by_cases h1 : tag = "io"
  · rw [if_pos h1] at h; cases h; exact Stops.io.withFlush
  rw [if_neg h1] at h
  by_cases h2 : acc.length > k.maxLen
  · rw [if_pos h2] at h; cases h; exact Stops.tooLong.withFlush
  rw [if_neg h2] at h
  cases hp : asProtocolError k acc <;> rw [hp] at h <;> dsimp only at h
  · by_cases h3 : acc.length ≥ expected
    · rw [if_pos h3] at h; cases h; apply Stops.withFlush; split
      · exact .noBytes
      · exact .frame (.inl h3)
    rw [if_neg h3] at h
    by_cases h4 : tag = "eof" ∧ k ≠ .serial
    · rw [if_pos h4] at h; cases h; split
      · exact .noBytes
      · exact .frame (.inr h4)
    rw [if_neg h4] at h
    cases c <;> cases h
    exact .ctx
  · cases h; exact (Stops.exc hp).withFlush

/-- an error tag after which the loop goes on as after a plain read: no I/O error, and no end of stream that a network
client would take for the end of the reply -/
structure Benign (k : ClientKind) (tag : String) : Prop where
  io : tag ≠ "io"
  eof : tag ≠ "eof" ∨ k = .serial

theorem benign_nil (k : ClientKind) : Benign k "nil" := ⟨by decide, .inl (by decide)⟩

theorem benign_timeout (k : ClientKind) : Benign k "timeout" := ⟨by decide, .inl (by decide)⟩

theorem benign_eof (hk : k = .serial) : Benign k "eof" := ⟨by decide, .inr hk⟩

theorem Benign.not_closed (h : Benign k tag) : ¬ (tag = "eof" ∧ k ≠ .serial) := fun c => h.eof.elim (· c.1) c.2

theorem stepOut_tag (h : Benign k tag) : stepOut k fl expected acc tag c = stepOut k fl expected acc "nil" c := by
  rw [stepOut, stepOut, if_neg h.io, if_neg h.not_closed, if_neg (benign_nil k).io, if_neg (benign_nil k).not_closed]

theorem Delivers.read {ev : Ev} {c : Bytes} (hd : Delivers k ev c) (space : Nat) :
    ∃ tag, ev.read space = (c.take space, tag, false) ∧ Benign k tag := by
  cases hd with
  | data => exact ⟨_, rfl, benign_nil k⟩
  | tdata => exact ⟨_, rfl, benign_timeout k⟩
  | timeout => exact ⟨_, by rw [List.take_nil]; rfl, benign_timeout k⟩
  | eofEmpty hk => exact ⟨_, rfl, benign_eof hk⟩

-- The next three are for after `readLoop_delivers`, which makes every read that delivers a plain one.
theorem stepOut_exc {e : PErr} (hmax : acc.length ≤ k.maxLen) (he : asProtocolError k acc = some e) :
    stepOut k fl expected acc "nil" c = some (withFlush k fl (.err (.exc e))) := by
  rw [stepOut, if_neg (benign_nil k).io, if_neg (Nat.not_lt.2 hmax), he]

theorem stepOut_frame (hmax : acc.length ≤ k.maxLen) (he : asProtocolError k acc = none)
    (hexp : expected ≤ acc.length) (hne : acc ≠ []) :
    stepOut k fl expected acc "nil" c = some (withFlush k fl (.frame acc)) := by
  rw [stepOut, if_neg (benign_nil k).io, if_neg (Nat.not_lt.2 hmax), he]
  dsimp only
  rw [if_pos hexp, if_neg (mt List.length_eq_zero_iff.1 hne)]

theorem stepOut_short (hmax : acc.length ≤ k.maxLen) (he : asProtocolError k acc = none) (hexp : acc.length < expected) :
    stepOut k fl expected acc "nil" c = if c then some (.err .ctx) else none := by
  rw [stepOut, if_neg (benign_nil k).io, if_neg (Nat.not_lt.2 hmax), he]
  dsimp only
  rw [if_neg (Nat.not_le.2 hexp), if_neg (benign_nil k).not_closed]

variable (k fl expected)

theorem bufLen_eq : k.bufLen = k.maxLen + 10 := rfl

/-- to the loop, a read that delivers `c` is a plain read of `c` -/
theorem readLoop_delivers {ev : Ev} {c : Bytes} (hd : Delivers k ev c) (rest : List Ev) (acc : Bytes)
    (log : List HookEv) (hfit : (acc ++ c).length ≤ k.maxLen) :
    ∃ log', readLoop k fl expected (ev :: rest) acc log =
      match stepOut k fl expected (acc ++ c) "nil" false with
      | some o => (o, log')
      | none => readLoop k fl expected rest (acc ++ c) log' := by
  obtain ⟨tag, hr, ht⟩ := hd.read (k.bufLen - acc.length)
  have hspace : c.length ≤ k.bufLen - acc.length := by
    rw [List.length_append] at hfit; rw [bufLen_eq]; omega
  rw [readLoop_cons, hr, List.take_of_length_le hspace]
  dsimp only
  rw [stepOut_tag ht]
  exact ⟨_, rfl⟩

theorem readLoop_ioerr (b : Bytes) (rest : List Ev) (acc : Bytes) (log : List HookEv) :
    ∃ log', readLoop k fl expected (.ioerr b :: rest) acc log = (withFlush k fl (.err .io), log') := by
  rw [readLoop_cons]
  exact ⟨_, rfl⟩

theorem readLoop_cancel (rest : List Ev) {acc : Bytes} (log : List HookEv) (hmax : acc.length ≤ k.maxLen)
    (hexp : acc.length < expected) (hno : asProtocolError k acc = none) :
    ∃ log', readLoop k fl expected (.cancel :: rest) acc log = (.err .ctx, log') := by
  rw [readLoop_cons]
  simp only [Ev.read, List.append_nil]
  rw [stepOut_tag (benign_timeout k), stepOut_short hmax hno hexp]
  exact ⟨_, rfl⟩

/-- the buffer is ten bytes longer than a frame, so a chunk that is cut to fit it still makes the total too long -/
theorem readLoop_oversize (c : Bytes) (rest : List Ev) {acc : Bytes} (log : List HookEv)
    (hbig : acc.length + c.length > k.maxLen) :
    ∃ log', readLoop k fl expected (.data c :: rest) acc log = (withFlush k fl (.err .tooLong), log') := by
  rw [readLoop_cons]
  simp only [Ev.read]
  rw [stepOut, if_neg (benign_nil k).io, if_pos (by rw [List.length_append, List.length_take, bufLen_eq]; omega)]
  exact ⟨_, rfl⟩

/-- every outcome but the stall's timeout was decided by the step after some read `n`, on what had been received by
then; the hooks saw the reads up to that one. `space` is arbitrary: the tag of a read does not depend on it. -/
theorem readLoop_trace (script : List Ev) (acc : Bytes) (log : List HookEv) :
    (∃ n ev space o, script[n]? = some ev ∧
      Stops k expected (receivedAfter k script acc (n + 1)) (ev.read space).2.1 o ∧
      readLoop k fl expected script acc log = (o, log ++ ((served k script acc).take (n + 1)).map servedHook)) ∨
    readLoop k fl expected script acc log = (.err .timeout, log ++ (served k script acc).map servedHook ++ [.stall]) := by
  induction script generalizing acc log with
  | nil => exact .inr (by simp [readLoop, served])
  | cons ev rest ih =>
    rw [readLoop_cons]
    simp only [receivedAfter_cons, served]
    generalize hr : ev.read (k.bufLen - acc.length) = r
    cases hs : stepOut k fl expected (acc ++ r.1) r.2.1 r.2.2 with
    | some o => exact .inl ⟨0, ev, _, o, rfl, by rw [hr]; simpa [receivedAfter] using stepOut_stops hs, by simp⟩
    | none =>
      obtain ⟨n, ev', space, o, hev, hs', h⟩ | h := ih (acc ++ r.1) (log ++ [servedHook (r.1, r.2.1)])
      · exact .inl ⟨n + 1, ev', space, o, hev, hs', by simp [h]⟩
      · exact .inr (by simp [h])

variable {k fl expected} {script : List Ev} {acc : Bytes} {log log' : List HookEv}

theorem readLoop_frame_len {bs : Bytes} (h : readLoop k fl expected script acc log = (.frame bs, log')) :
    bs.length ≥ expected ∨ (k ≠ .serial ∧ ∃ b, Ev.eof b ∈ script) := by
  obtain ⟨n, ev, space, o, hev, hs, h'⟩ | h' := readLoop_trace k fl expected script acc log <;> rw [h'] at h <;>
    cases h
  cases hs with
  | frame hl =>
    refine hl.imp_right fun ⟨ht, hk⟩ => ⟨hk, ?_⟩
    cases ev <;> simp [Ev.read] at ht
    exact ⟨_, List.mem_of_getElem? hev⟩

theorem readLoop_err_class {e : CErr} (h : readLoop k fl expected script acc log = (.err e, log')) :
    e = .timeout ∨ e = .io ∨ e = .flush ∨ e = .tooLong ∨ e = .ctx ∨ e = .noBytes ∨ ∃ x, e = .exc x := by
  obtain ⟨n, ev, space, o, hev, hs, h'⟩ | h' := readLoop_trace k fl expected script acc log <;> rw [h'] at h <;>
    cases h
  · cases hs <;> simp
  · exact .inl rfl

theorem readLoop_exc_src_at {e : PErr} (h : readLoop k fl expected script acc log = (.err (.exc e), log')) :
    ∃ n, n ≤ script.length ∧ asProtocolError k (receivedAfter k script acc n) = some e := by
  obtain ⟨n, ev, space, o, hev, hs, h'⟩ | h' := readLoop_trace k fl expected script acc log <;> rw [h'] at h <;>
    cases h
  cases hs with
  | exc hx => exact ⟨n + 1, (List.getElem?_eq_some_iff.1 hev).1, hx⟩

end

/-- the after-read hook sees exactly the reads the transport served, in order (the first `n` of them, where the
loop stopped; followed by the stall marker when the script ran out), and a frame handed on is exactly the
concatenation of the bytes of those reads after what had been received before -/
theorem readLoop_log (k : ClientKind) (fl : Flusher) (expected : Nat) :
    ∀ (script : List Ev) (acc : Bytes) (log : List HookEv),
      ∃ n, n ≤ script.length ∧
        ((readLoop k fl expected script acc log).2 = log ++ ((served k script acc).take n).map servedHook ∨
         (readLoop k fl expected script acc log).2 = log ++ (served k script acc).map servedHook ++ [.stall]) ∧
        ∀ bs, (readLoop k fl expected script acc log).1 = .frame bs →
          bs = acc ++ (((served k script acc).take n).map (·.1)).flatten := by
  intro script acc log
  obtain ⟨n, ev, space, o, hev, hs, h⟩ | h := readLoop_trace k fl expected script acc log <;> rw [h]
  · refine ⟨n + 1, (List.getElem?_eq_some_iff.1 hev).1, .inl rfl, ?_⟩
    rintro bs rfl
    cases hs
    rfl
  · exact ⟨0, Nat.zero_le _, .inr rfl, fun _ h => nomatch h⟩

theorem readLoop_frame_at {k : ClientKind} {fl : Flusher} {expected : Nat} {script : List Ev} {acc : Bytes}
    {log log' : List HookEv} {bs : Bytes} (h : readLoop k fl expected script acc log = (.frame bs, log')) :
    ∃ n, n ≤ script.length ∧ bs = receivedAfter k script acc n := by
  obtain ⟨n, hn, _, hfr⟩ := readLoop_log k fl expected script acc log
  exact ⟨n, hn, hfr bs (by rw [h])⟩

/-- reads that only accumulate are skipped. The last hypothesis covers every split of `acc ++ evData pre`, `q = []`
included (the whole must not look like an exception either), unlike `hpre` of `readLoop_feeds`, which asks `q ≠ []` -/
theorem readLoop_skip (k : ClientKind) (fl : Flusher) (expected : Nat) (tail : List Ev) :
    ∀ (pre : List Ev) (acc : Bytes) (log : List HookEv),
      (∀ e ∈ pre, e = .timeout ∨ ∃ c, e = .data c) →
      (acc ++ evData pre).length < expected → (acc ++ evData pre).length ≤ k.maxLen →
      (∀ p q, p ++ q = acc ++ evData pre → asProtocolError k p = none) →
      ∃ log', readLoop k fl expected (pre ++ tail) acc log = readLoop k fl expected tail (acc ++ evData pre) log' := by
  intro pre
  induction pre with
  | nil => intro acc log _ _ _ _; exact ⟨log, by rw [evData, List.append_nil]; rfl⟩
  | cons ev rest ih =>
    intro acc log hall hlt hmax hno
    obtain ⟨c, hd, hc⟩ : ∃ c, Delivers k ev c ∧ evData (ev :: rest) = c ++ evData rest := by
      rcases hall ev (List.mem_cons_self ..) with rfl | ⟨c, rfl⟩
      · exact ⟨[], .timeout, rfl⟩
      · exact ⟨c, .data c, rfl⟩
    rw [hc, ← List.append_assoc] at hlt hmax hno ⊢
    have hl := List.length_append (as := acc ++ c) (bs := evData rest)
    have hfit : (acc ++ c).length ≤ k.maxLen := by omega
    obtain ⟨log₁, h₁⟩ := readLoop_delivers k fl expected hd (rest ++ tail) acc log hfit
    rw [stepOut_short hfit (hno _ _ rfl) (by omega)] at h₁
    obtain ⟨log', h⟩ := ih (acc ++ c) log₁ (fun e he => hall e (List.mem_cons_of_mem _ he)) hlt hmax hno
    exact ⟨log', h₁.trans h⟩

/-- a transport that delivers fewer than `expected` bytes (nothing that looks like an exception at any
point) and then nothing more ends in the retryable timeout error -/
theorem readLoop_stall (k : ClientKind) (fl : Flusher) (expected : Nat) :
    ∀ (script : List Ev) (acc : Bytes) (log : List HookEv),
      (∀ e ∈ script, e = .timeout ∨ ∃ c, e = .data c) →
      (acc ++ evData script).length < expected → (acc ++ evData script).length ≤ k.maxLen →
      (∀ p q, p ++ q = acc ++ evData script → asProtocolError k p = none) →
      ∃ log', readLoop k fl expected script acc log = (.err .timeout, log') := by
  intro script acc log hall hlt hmax hno
  obtain ⟨log', h⟩ := readLoop_skip k fl expected [] script acc log hall hlt hmax hno
  rw [List.append_nil] at h
  exact ⟨_, h⟩

/-- `script` hands `b` to a client of kind `k` in reads that each deliver their part of it, followed by anything -/
inductive Feeds (k : ClientKind) : Bytes → List Ev → Prop
  | done (rest : List Ev) : Feeds k [] rest
  | cons {ev : Ev} {c b : Bytes} {s : List Ev} : Delivers k ev c → Feeds k b s → Feeds k (c ++ b) (ev :: s)

theorem Frag.feeds (k : ClientKind) {b : Bytes} {s : List Ev} (h : Frag b s) : Feeds k b s := by
  induction h with
  | done r => exact .done r
  | timeout _ ih => exact .cons .timeout ih
  | data c _ _ ih => exact .cons (.data c) ih
  | tdata c _ _ ih => exact .cons (.tdata c) ih

theorem FragSerial.feeds {b : Bytes} {s : List Ev} (h : FragSerial b s) : Feeds .serial b s := by
  induction h with
  | done r => exact .done r
  | timeout _ ih => exact .cons .timeout ih
  | eofEmpty _ ih => exact .cons (.eofEmpty rfl) ih
  | data c _ _ ih => exact .cons (.data c) ih
  | tdata c _ _ ih => exact .cons (.tdata c) ih

/-- whatever the cut, the loop returns what the step decides on the whole of `x`: the complete reply
if its length was announced (`hx` from `stepOut_frame`), the exception if `x` is one (`stepOut_exc`) -/
theorem readLoop_feeds {k : ClientKind} {fl : Flusher} {expected : Nat} {x : Bytes} {o : LoopOut}
    (hmax : x.length ≤ k.maxLen) (hexp : x.length ≤ expected)
    (hpre : ∀ p q, p ++ q = x → q ≠ [] → asProtocolError k p = none)
    (hx : stepOut k fl expected x "nil" false = some o) {rest : Bytes} {script : List Ev} (hf : Feeds k rest script) :
    ∀ (acc : Bytes) (log : List HookEv), acc ++ rest = x → rest ≠ [] →
      ∃ log', readLoop k fl expected script acc log = (o, log') := by
  induction hf with
  | done _ => exact fun _ _ _ hne => absurd rfl hne
  | @cons ev c b s hd _ ih =>
    intro acc log hacc _
    rw [← List.append_assoc] at hacc
    have hl := congrArg List.length hacc
    rw [List.length_append] at hl
    have hfit : (acc ++ c).length ≤ k.maxLen := by omega
    obtain ⟨log₁, h₁⟩ := readLoop_delivers k fl expected hd s acc log hfit
    by_cases hb : b = []
    · subst hb
      rw [List.append_nil] at hacc
      rw [hacc, hx] at h₁
      exact ⟨log₁, h₁⟩
    · have : 0 < b.length := List.length_pos_iff.2 hb
      rw [stepOut_short hfit (hpre _ b hacc hb) (by omega)] at h₁
      rw [h₁]
      exact ih _ _ hacc hb

/-- what `Do` makes of the loop's outcome: an error is returned as it is, a frame goes through the reply parser -/
def replyOut (k : ClientKind) : LoopOut → DoOut
  | .err e => .err e
  | .frame bs =>
    match k.framing with
    | .tcp =>
      match parseTCPResponse ⟨bs, []⟩ with
      | .ok (tid, r) => .ok r (some tid)
      | .err e => .err (.parse e)
      | .panic => .panic
    | .rtu =>
      match parseRTUResponseWithCRC ⟨bs, []⟩ with
      | .ok r => .ok r none
      | .err e => .err (.parse e)
      | .panic => .panic

/-- what the before-parse hook is called with -/
def parseHook : LoopOut → List HookEv
  | .err _ => []
  | .frame bs => [.beforeParse bs]

section
variable (k : ClientKind) (fl : Flusher) (hooks : Bool) (req : Bytes) (expected : Nat) (script : List Ev)

theorem doExchange_read :
    doExchange k fl hooks req expected false script =
      (replyOut k (readLoop k fl expected script [] []).1,
       if hooks then .beforeWrite req :: (readLoop k fl expected script [] []).2 ++
         parseHook (readLoop k fl expected script [] []).1 else []) := by
  unfold doExchange
  rcases readLoop k fl expected script [] [] with ⟨bs | e, log⟩
  · unfold replyOut
    dsimp only
    cases k.framing
    · rcases parseTCPResponse ⟨bs, []⟩ with ⟨tid, r⟩ | e | _ <;> cases hooks <;> rfl
    · rcases parseRTUResponseWithCRC ⟨bs, []⟩ with r | e | _ <;> cases hooks <;> rfl
  · cases hooks <;> simp [replyOut, parseHook]

theorem doExchange_writeFails :
    doExchange k fl hooks req expected true script =
      (.err (if k = .serial ∧ fl = .failing then .flush else .write), if hooks then [.beforeWrite req] else []) := by
  unfold doExchange withFlush
  by_cases h : k = .serial ∧ fl = .failing
  · rw [if_pos h, if_pos h]; rfl
  · rw [if_neg h, if_neg h]; rfl

end

end Modbus.Lemmas
