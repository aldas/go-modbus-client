import Modbus.Model.Builder
/-
  The greedy batching loop of `batchToRequests` (splitter.go) over a list of slots sorted by address.
  The loop is studied through `batches`: the list of batches it ends with, once a batch is open.
-/
namespace Modbus.Lemmas
open Modbus.Model

/-- batch `b` is exactly the window of the non-empty slot list `cs` -/
structure GoodBatch (limit : Nat) (server : String) (unit : UInt8) (b : Batch) (cs : List Slot) : Prop where
  ne : cs ≠ []
  srv : b.server = server ∧ b.unit = unit
  fields : b.fields = cs.flatMap (·.fields)
  lo : ∀ s ∈ cs, b.start.toNat ≤ s.addr.toNat
  hi : ∀ s ∈ cs, s.addr.toNat + s.size ≤ b.start.toNat + b.qty
  loAtt : ∃ s ∈ cs, s.addr.toNat = b.start.toNat
  hiAtt : ∃ s ∈ cs, s.addr.toNat + s.size = b.start.toNat + b.qty
  -- not simply `b.qty ≤ limit`: a first slot that alone exceeds the limit opens a batch of its own size
  qtyB : b.qty ≤ limit ∨ ∃ s ∈ cs, b.qty = s.size

/-- a list of batches matches a list of slot segments -/
inductive GoodAll (limit : Nat) (server : String) (unit : UInt8) : List Batch → List (List Slot) → Prop
  | nil : GoodAll limit server unit [] []
  | cons {b bs cs css} : GoodBatch limit server unit b cs → GoodAll limit server unit bs css →
      GoodAll limit server unit (b :: bs) (cs :: css)

theorem GoodAll.append {limit server unit} {bs1 bs2 : List Batch} {c1 c2 : List (List Slot)}
    (h1 : GoodAll limit server unit bs1 c1) (h2 : GoodAll limit server unit bs2 c2) :
    GoodAll limit server unit (bs1 ++ bs2) (c1 ++ c2) := by
  induction h1 with
  | nil => exact h2
  | cons hb _ ih => exact .cons hb ih

/-! ### `sort.Sort(slotsSorter)`, modelled as insertion sort: a permutation, ascending by address -/

theorem insertSlot_perm (s : Slot) (l : List Slot) : (insertSlot s l).Perm (s :: l) := by
  induction l with
  | nil => rfl
  | cons t rest ih =>
    unfold insertSlot
    split
    · rfl
    · exact (ih.cons t).trans (.swap s t rest)

theorem sortSlots_perm (l : List Slot) : (sortSlots l).Perm l := by
  induction l with
  | nil => rfl
  | cons s rest ih => exact (insertSlot_perm s _).trans (ih.cons s)

theorem insertSlot_asc (s : Slot) {l : List Slot} (h : l.Pairwise fun a b => a.addr.toNat ≤ b.addr.toNat) :
    (insertSlot s l).Pairwise fun a b => a.addr.toNat ≤ b.addr.toNat := by
  induction l with
  | nil => simp [insertSlot]
  | cons t rest ih =>
    obtain ⟨ht, hrest⟩ := List.pairwise_cons.1 h
    unfold insertSlot
    split
    · next hle =>
      exact List.pairwise_cons.2 ⟨List.forall_mem_cons.2 ⟨hle, fun u hu => Nat.le_trans hle (ht u hu)⟩, h⟩
    · refine List.pairwise_cons.2 ⟨fun u hu => ?_, ih hrest⟩
      rcases List.mem_cons.1 ((insertSlot_perm s rest).mem_iff.1 hu) with rfl | hu
      · omega
      · exact ht u hu

theorem sortSlots_asc (l : List Slot) : (sortSlots l).Pairwise fun a b => a.addr.toNat ≤ b.addr.toNat := by
  induction l with
  | nil => exact .nil
  | cons s rest ih => exact insertSlot_asc s ih

variable (server : String) (unit : UInt8) (limit : Nat)

/-- the batches `batchLoop` ends with (closed ones and the last open one) when `cur` is open and `rest` is still to
come: a slot that ends more than `limit` behind the start of `cur` closes it and opens a batch of its own -/
def batches : List Slot → Batch → List Batch
  | [], cur => [cur]
  | s :: rest, cur =>
    if s.addr.toNat + s.size - cur.start.toNat > limit then
      cur :: batches rest ⟨server, unit, s.addr, s.size, s.fields⟩
    else
      batches rest { cur with qty := max cur.qty (s.addr.toNat + s.size - cur.start.toNat),
                              fields := cur.fields ++ s.fields }

theorem ite_lt_eq_max (a b : Nat) : (if a < b then b else a) = max a b := by
  split <;> omega

theorem batchLoop_eq (rest : List Slot) (closed : List Batch) (cur : Batch) :
    (batchLoop server unit limit rest (closed, cur, cur.start.toNat, true)).1 ++
      [(batchLoop server unit limit rest (closed, cur, cur.start.toNat, true)).2] =
    closed ++ batches server unit limit rest cur := by
  induction rest generalizing closed cur with
  | nil => rfl
  | cons s rest ih =>
    simp only [batchLoop, batches, Bool.not_true, Bool.false_eq_true, if_false]
    split
    · exact (ih _ _).trans (by simp)
    · rw [ite_lt_eq_max]
      exact ih _ _

/-- the initial, not yet opened batch -/
def batch0 : Batch := { server := "", unit := 0, start := 0, qty := 0, fields := [] }

/-- the first slot opens a batch of its own; when it alone exceeds the limit, the loop first closes the batch it
started with (`batch0`, addressed to the slot), which is empty (quantity 0) -/
theorem batchGroup_eq (g : Group) (s : Slot) (rest : List Slot) (h : sortSlots g.slots = s :: rest) :
    batchGroup g =
      (if s.size > (if g.isCoil then 2000 else 125) then [⟨g.server, g.unit, s.addr, 0, []⟩] else []) ++
        batches g.server g.unit (if g.isCoil then 2000 else 125) rest ⟨g.server, g.unit, s.addr, s.size, s.fields⟩ := by
  unfold batchGroup
  rw [h]
  generalize (if g.isCoil then 2000 else 125) = lim
  simp only [batchLoop, Bool.not_false, if_true, Nat.add_sub_cancel_left, ite_lt_eq_max, Nat.zero_max]
  split
  · exact batchLoop_eq g.server g.unit lim rest _ ⟨g.server, g.unit, s.addr, s.size, s.fields⟩
  · exact batchLoop_eq g.server g.unit lim rest [] ⟨g.server, g.unit, s.addr, s.size, s.fields⟩

variable {server unit limit}

theorem GoodBatch.single (s : Slot) :
    GoodBatch limit server unit ⟨server, unit, s.addr, s.size, s.fields⟩ [s] where
  ne := by simp
  srv := ⟨rfl, rfl⟩
  fields := by simp
  lo := by simp
  hi := by simp
  loAtt := ⟨s, by simp, rfl⟩
  hiAtt := ⟨s, by simp, rfl⟩
  qtyB := .inr ⟨s, by simp, rfl⟩

theorem GoodBatch.extend {cur : Batch} {cs : List Slot} {s : Slot} (hb : GoodBatch limit server unit cur cs)
    (hle : cur.start.toNat ≤ s.addr.toNat) (hfit : s.addr.toNat + s.size - cur.start.toNat ≤ limit) :
    GoodBatch limit server unit
      { cur with qty := max cur.qty (s.addr.toNat + s.size - cur.start.toNat), fields := cur.fields ++ s.fields }
      (cs ++ [s]) := by
  have mem : ∀ {t}, t ∈ cs → t ∈ cs ++ [s] := List.mem_append_left _
  have hs : s ∈ cs ++ [s] := by simp
  obtain ⟨a, ha, hae⟩ := hb.loAtt
  obtain ⟨z, hz, hze⟩ := hb.hiAtt
  have hend : s.addr.toNat + s.size = cur.start.toNat + (s.addr.toNat + s.size - cur.start.toNat) :=
    (Nat.add_sub_of_le (Nat.le_add_right_of_le hle)).symm
  generalize s.addr.toNat + s.size - cur.start.toNat = d at hfit hend ⊢
  refine ⟨by simp, hb.srv, by simp [hb.fields], List.forall_mem_append.2 ⟨hb.lo, by simpa using hle⟩,
    List.forall_mem_append.2 ⟨fun t ht => Nat.le_trans (hb.hi t ht) (Nat.add_le_add_left (Nat.le_max_left ..) _),
      by simpa [hend] using Nat.le_max_right ..⟩, ⟨a, mem ha, hae⟩, ?_, ?_⟩
  -- the new end is the old one or the end of `s`, whichever is larger
  · rcases Nat.le_total cur.qty d with h | h
    · exact ⟨s, hs, by rw [hend, Nat.max_eq_right h]⟩
    · exact ⟨z, mem hz, by rw [hze, Nat.max_eq_left h]⟩
  · rcases Nat.le_total cur.qty d with h | h
    · exact .inl (by rwa [Nat.max_eq_right h])
    · exact (Nat.max_eq_left h).symm ▸ hb.qtyB.imp id fun ⟨t, ht, hte⟩ => ⟨t, mem ht, hte⟩

theorem batches_good (rest : List Slot) {cur : Batch} {cs : List Slot} (hb : GoodBatch limit server unit cur cs)
    (hlo : ∀ t ∈ rest, cur.start.toNat ≤ t.addr.toNat)
    (hasc : rest.Pairwise fun a b => a.addr.toNat ≤ b.addr.toNat) :
    ∃ css, GoodAll limit server unit (batches server unit limit rest cur) css ∧ css.flatten = cs ++ rest := by
  induction rest generalizing cur cs with
  | nil => exact ⟨[cs], .cons hb .nil, by simp⟩
  | cons s rest ih =>
    obtain ⟨hs, hasc⟩ := List.pairwise_cons.1 hasc
    unfold batches
    split
    · obtain ⟨css, h1, h2⟩ := ih (GoodBatch.single s) hs hasc
      exact ⟨cs :: css, .cons hb h1, by simp [h2]⟩
    · obtain ⟨css, h1, h2⟩ := ih (hb.extend (hlo s (by simp)) (by omega)) (fun t ht => hlo t (by simp [ht])) hasc
      exact ⟨css, h1, by simp [h2]⟩

theorem batches_nosplit (rest : List Slot) (cur : Batch)
    (h : ∀ t ∈ rest, t.addr.toNat + t.size - cur.start.toNat ≤ limit) :
    (batches server unit limit rest cur).length = 1 := by
  induction rest generalizing cur with
  | nil => rfl
  | cons s rest ih =>
    unfold batches
    rw [if_neg (by have := h s (by simp); omega)]
    exact ih _ fun t ht => h t (by simp [ht])

end Modbus.Lemmas
