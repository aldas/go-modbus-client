import ModbusProofs.Lemmas.Crc
import Modbus.Spec.Frames
/-
  The model's encoders against the frame layout of the specification: `mbap`, `withCrc`, `coilsToBytes` in the
  words of `Spec/Frames.lean` (`frame_eq`, `frame_len`, `coilsToBytes_eq_pack`), and where a coil sits in the packed payload.
-/
namespace Modbus.Lemmas
open Modbus.Model

theorem put16_eq_be (v : UInt16) : put16 v = Spec.be v.toNat := rfl

theorem put16_ofNat (n : Nat) (h : n < 65536) : put16 (UInt16.ofNat n) = Spec.be n := by
  rw [put16_eq_be, u16_ofNat_toNat n h]

theorem mbap_eq (tid : UInt16) (n : Nat) (h : n < 65536) :
    mbap tid (UInt16.ofNat n) = Spec.be tid.toNat ++ [0, 0] ++ Spec.be n := by
  unfold mbap
  rw [put16_ofNat n h, put16_eq_be]

theorem withCrc_eq (body : Bytes) :
    withCrc body = body ++ [UInt8.ofNat ((Spec.crc body).toNat % 256), UInt8.ofNat ((Spec.crc body).toNat / 256)] := by
  unfold withCrc crcTrailer lo8 hi8
  have : (crc16 body).toNat = (Spec.crc body).toNat := by
    rw [← crcBV_eq_spec]; rfl
  rw [this]

theorem frame_eq (f : Framing) (tid : UInt16) (a : NewArgs) (r : Req)
    (hp : r.pdu = a.unit :: Spec.pdu a) (hl : r.pdu.length < 65536) :
    r.bytes f tid = Spec.adu f tid a := by
  cases f with
  | tcp =>
    show r.bytesTCP tid = _
    unfold Req.bytesTCP Spec.adu
    simp only []
    rw [mbap_eq tid _ hl, hp]
    simp [List.append_assoc]
  | rtu =>
    show r.bytesRTU = _
    unfold Req.bytesRTU Spec.adu
    simp only []
    rw [withCrc_eq, hp]
    simp

theorem frame_len (f : Framing) (tid : UInt16) (r : Req) (hl : r.pdu.length ≤ 254) :
    (r.bytes f tid).length ≤ Spec.maxADU f := by
  cases f with
  | tcp =>
    show (r.bytesTCP tid).length ≤ 260
    unfold Req.bytesTCP mbap put16
    simp; omega
  | rtu =>
    show (r.bytesRTU).length ≤ 256
    unfold Req.bytesRTU withCrc crcTrailer
    simp; omega

theorem packBits_testBit (l : List Bool) (k : Nat) : (packBits l).testBit k = l.getD k false := by
  induction l generalizing k with
  | nil => simp [packBits]
  | cons b r ih =>
    unfold packBits
    cases k with
    | zero =>
      cases b <;> simp [Nat.testBit_zero]
    | succ k =>
      rw [Nat.testBit_succ]
      have : ((if b = true then 1 else 0) + 2 * packBits r) / 2 = packBits r := by
        cases b <;> simp <;> omega
      rw [this, ih]
      simp

/-- the number whose bit `k` is `b k` for `k < n`, in the form `Spec.packByte` writes it -/
theorem bitSum_testBit (b : Nat → Bool) (n : Nat) :
    (List.range n).foldl (fun acc k => acc + (if b k then 2 ^ k else 0)) 0 < 2 ^ n ∧
    ∀ i, ((List.range n).foldl (fun acc k => acc + (if b k then 2 ^ k else 0)) 0).testBit i =
      (decide (i < n) && b i) := by
  induction n with
  | zero => simp
  | succ n ih =>
    rw [List.range_succ, List.foldl_append, List.foldl_cons, List.foldl_nil]
    generalize (List.range n).foldl _ 0 = s at ih ⊢
    have hs : s + (if b n then 2 ^ n else 0) = 2 ^ n * (b n).toNat + s := by
      cases b n <;> simp [Nat.add_comm]
    rw [hs, Nat.pow_succ]
    refine ⟨by cases b n <;> simp <;> omega, fun i => ?_⟩
    rw [Nat.testBit_two_pow_mul_add _ ih.1, Nat.testBit_bool_toNat, ih.2]
    by_cases h : i < n
    · simp [h, Nat.lt_succ_of_lt h]
    · by_cases h' : i = n
      · simp [h']
      · simp [h, show ¬ i < n + 1 by omega, show ¬ i - n = 0 by omega]

/-- both sides are the byte with the same bits -/
theorem coilsToBytes_eq_pack (coils : List Bool) : coilsToBytes coils = Spec.pack coils := by
  unfold coilsToBytes Spec.pack Spec.packByte
  apply List.map_congr_left
  intro j _
  congr 1
  apply Nat.eq_of_testBit_eq
  intro i
  rw [packBits_testBit, (bitSum_testBit _ 8).2]
  by_cases h : i < 8 <;> simp [h, List.getD_eq_getElem?_getD, List.getElem?_take]

theorem coilsToBytes_bit (cs : List Bool) (i : Nat) (h : i < cs.length) :
    ((coilsToBytes cs).getD (i / 8) 0).toNat.testBit (i % 8) = cs.getD i false := by
  unfold coilsToBytes
  rw [List.getD_eq_getElem?_getD, List.getElem?_map, List.getElem?_range (by omega)]
  simp only [Option.map_some, Option.getD_some, UInt8.toNat_ofNat']
  have h8 : i % 8 < 8 := Nat.mod_lt i (by decide)
  rw [Nat.testBit_mod_two_pow, packBits_testBit, decide_eq_true h8, Bool.true_and]
  simp only [List.getD_eq_getElem?_getD, List.getElem?_take, List.getElem?_drop, h8, if_true, Nat.div_add_mod]

end Modbus.Lemmas
