import ModbusProofs.Lemmas.RespRoundTrip
import ModbusProofs.Lemmas.Crc
/-
  C02 — Responses decode to exactly what was sent; exceptions become typed errors.

  (1) every well-formed response value of FC1-6, 15, 16, 23 (byte count = payload length, at
      least one byte / one register) encodes to a frame that every parse path decodes to exactly
      that value - transaction id, unit id, addresses, counts, payload - which therefore re-encodes
      to the same frame; stated for all payload lengths 1..255 and arbitrary payload bytes.
      FC17 (variable layout, the library's own): `roundtrip_sid_tcp` / `roundtrip_sid_rtu` below.
  (2) every 9-byte TCP / 5-byte RTU frame whose function byte has the high bit set is reported as the
      typed exception carrying the frame's unit id, function code - 128 and exception code; never as a value.
  (3) a byte-count carrying response whose length disagrees with its byte count field is rejected.
-/
namespace Modbus.Properties.C02
open Modbus.Model Modbus.Lemmas

theorem resp_pdu_fc (r : Resp) : r.pdu.getD 1 0 = r.fc ∧ 2 ≤ r.pdu.length := by
  cases r <;> simp [Resp.pdu, Resp.fc, put16]

theorem wf9_len (r : Resp) (h : Resp.WF9 r) : 4 ≤ r.pdu.length ∧ r.fc.toNat < 128 := by
  cases r with
  | bits fc u bl d => obtain ⟨hfc, _, hd⟩ := h; rcases hfc with rfl | rfl <;> simp [Resp.pdu, Resp.fc] <;> omega
  | regs fc u bl d =>
    obtain ⟨hfc, hbl, hd⟩ := h
    have := bl.toNat_lt
    rcases hfc with rfl | rfl | rfl <;> simp [Resp.pdu, Resp.fc] <;> omega
  | wcoil u a s => simp [Resp.pdu, Resp.fc, put16]
  | wreg u a d0 d1 => simp [Resp.pdu, Resp.fc, put16]
  | wmulti fc u a c => rcases h with rfl | rfl <;> simp [Resp.pdu, Resp.fc, put16]
  | sid u st id add => exact absurd h (by simp [Resp.WF9])

/-- a frame that is too long for an exception goes to the parser of its function code -/
theorem dispatch_tcp {v sp : Bytes} {x : UInt16 × Resp} (hl : 10 ≤ v.length)
    (h : parseRespTCPfc (v.getD 7 0) ⟨v, sp⟩ = .ok x) : parseTCPResponse ⟨v, sp⟩ = .ok x := by
  rw [parseTCPResponse_eq, if_neg (by omega), if_neg (fun c => by omega), h]

theorem dispatch_rtu {v sp : Bytes} {x : Resp} (hl : 6 ≤ v.length) (hc : crcMatches v = true)
    (h : parseRespRTUfc (v.getD 1 0) ⟨v, sp⟩ = .ok x) :
    parseRTUResponse ⟨v, sp⟩ = .ok x ∧ parseRTUResponseWithCRC ⟨v, sp⟩ = .ok x := by
  have : parseRTUResponse ⟨v, sp⟩ = .ok x := by
    rw [parseRTUResponse_eq, if_neg (by omega), if_neg (fun c => by omega), h]
  exact ⟨this, by rw [parseRTUResponseWithCRC_eq (by omega) hc, this]⟩

theorem bytesTCP_fc (tid : UInt16) (r : Resp) :
    (r.bytesTCP tid).getD 7 0 = r.fc ∧ (r.bytesTCP tid).length = 6 + r.pdu.length := by
  rw [← (resp_pdu_fc r).1]
  exact ⟨getD_drop (r.bytesTCP tid) 6 1 ▸ rfl, by simp [Resp.bytesTCP, mbap, put16]; omega⟩

theorem bytesRTU_fc (r : Resp) :
    r.bytesRTU.getD 1 0 = r.fc ∧ r.bytesRTU.length = r.pdu.length + 2 ∧ crcMatches r.bytesRTU = true := by
  have ⟨hfc, hl⟩ := resp_pdu_fc r
  exact ⟨(getD_append_left r.pdu _ (by omega)).trans hfc, by simp [Resp.bytesRTU, withCrc, crcTrailer],
    (crcMatches_iff r.pdu _ _).2 ⟨rfl, rfl⟩⟩

/-- (1) TCP: per-function parser and dispatcher return the value the frame encodes -/
theorem roundtrip_tcp (tid : UInt16) (r : Resp) (h : Resp.WF9 r) (sp : Bytes) :
    parseRespTCPfc r.fc ⟨r.bytesTCP tid, sp⟩ = .ok (tid, r) ∧
    parseTCPResponse ⟨r.bytesTCP tid, sp⟩ = .ok (tid, r) := by
  have ⟨hfc, hl⟩ := bytesTCP_fc tid r
  have := (rt_resp_fc r h sp).1 tid
  exact ⟨this, dispatch_tcp (by have := (wf9_len r h).1; omega) (hfc ▸ this)⟩

/-- (1) RTU: per-function parser, dispatcher and CRC-checking dispatcher -/
theorem roundtrip_rtu (r : Resp) (h : Resp.WF9 r) (sp : Bytes) :
    parseRespRTUfc r.fc ⟨r.bytesRTU, sp⟩ = .ok r ∧
    parseRTUResponse ⟨r.bytesRTU, sp⟩ = .ok r ∧
    parseRTUResponseWithCRC ⟨r.bytesRTU, sp⟩ = .ok r := by
  have ⟨hfc, hl, hc⟩ := bytesRTU_fc r
  have : parseRespRTUfc r.fc ⟨r.bytesRTU, sp⟩ = .ok r := (rt_resp_fc r h sp).2 _ _
  exact ⟨this, dispatch_rtu (by have := (wf9_len r h).1; omega) hc (hfc ▸ this)⟩

/-- (1) FC17 (read server id) over TCP, in the library's layout (id length, id, run status, additional data):
additional data is reported as absent or non-empty -/
theorem roundtrip_sid_tcp (tid : UInt16) (u st : UInt8) (id : Bytes) (add : Option Bytes)
    (h1 : 1 ≤ id.length) (h2 : id.length ≤ 255) (h3 : add ≠ some []) (sp : Bytes) :
    parseRespTCPfc 17 ⟨(Resp.sid u st id add).bytesTCP tid, sp⟩ = .ok (tid, .sid u st id add) ∧
    parseTCPResponse ⟨(Resp.sid u st id add).bytesTCP tid, sp⟩ = .ok (tid, .sid u st id add) := by
  have ⟨hfc, hl⟩ := bytesTCP_fc tid (.sid u st id add)
  have key : parseSidRespTCP ⟨(Resp.sid u st id add).bytesTCP tid, sp⟩ = .ok (tid, .sid u st id add) := by
    have := rt_sid_tcp tid (UInt16.ofNat (Resp.sid u st id add).pdu.length) u st (UInt8.ofNat id.length) id
      (add.getD []) (u8_ofNat_toNat _ (by omega)) h1 sp
    rwa [show (if add.getD [] = [] then none else some (add.getD [])) = add by
      cases add with
      | none => rfl
      | some t => simp [show t ≠ [] from fun e => h3 (by rw [e])]] at this
  exact ⟨key, dispatch_tcp (by simp [Resp.pdu] at hl; omega) (hfc ▸ key)⟩

/-- (1) FC17 over RTU: the parser reports the additional data as a (possibly empty) byte string -/
theorem roundtrip_sid_rtu (u st : UInt8) (id t : Bytes) (h1 : 1 ≤ id.length) (h2 : id.length ≤ 255) (sp : Bytes) :
    parseRespRTUfc 17 ⟨(Resp.sid u st id (some t)).bytesRTU, sp⟩ = .ok (.sid u st id (some t)) ∧
    parseRTUResponse ⟨(Resp.sid u st id (some t)).bytesRTU, sp⟩ = .ok (.sid u st id (some t)) ∧
    parseRTUResponseWithCRC ⟨(Resp.sid u st id (some t)).bytesRTU, sp⟩ = .ok (.sid u st id (some t)) := by
  have ⟨hfc, hl, hc⟩ := bytesRTU_fc (.sid u st id (some t))
  have key : parseSidRespRTU ⟨(Resp.sid u st id (some t)).bytesRTU, sp⟩ = .ok (.sid u st id (some t)) :=
    rt_sid_rtu u st (UInt8.ofNat id.length) _ _ id t (u8_ofNat_toNat _ (by omega)) h1 sp
  exact ⟨key, dispatch_rtu (by simp [Resp.pdu] at hl; omega) hc (hfc ▸ key)⟩

/-- the frame is reproduced byte for byte in both framings: absent and empty additional data encode alike -/
theorem sid_none_encodes_as_empty (u st : UInt8) (id : Bytes) :
    (Resp.sid u st id none).pdu = (Resp.sid u st id (some [])).pdu := by simp [Resp.pdu]

/-- non-vacuity: a 255-byte server id with additional data -/
example : (Resp.sid 1 0xFF (List.replicate 255 0x41) (some [1, 2, 3])).pdu.length = 262 := by
  decide +kernel

/-- (1) the payload bytes are arbitrary and every byte count 1..255 occurs: non-vacuity -/
example : Resp.WF9 (.bits 1 7 255 (List.replicate 255 0xA5)) := by
  refine ⟨Or.inl rfl, ?_, ?_⟩ <;> rw [List.length_replicate] <;> decide
example : Resp.WF9 (.regs 23 7 250 (List.replicate 250 0x5A)) := by
  refine ⟨Or.inr (Or.inr rfl), ?_, ?_⟩ <;> rw [List.length_replicate] <;> decide

/-- (2) TCP: ANY nine bytes with the high bit of byte 7 set are reported as the typed exception -/
theorem exception_tcp (v sp : Bytes) (hlen : v.length = 9) (hbit : (v.getD 7 0) &&& 128 ≠ 0) :
    parseTCPResponse ⟨v, sp⟩ =
      .err (.excT (be16 (v.getD 0 0) (v.getD 1 0)) (v.getD 6 0) (v.getD 7 0 - 128) (v.getD 8 0)) := by
  rw [parseTCPResponse_eq, if_neg (by omega), if_pos ⟨hlen, hbit⟩]

/-- (2) RTU: ANY five bytes with the high bit of byte 1 set -/
theorem exception_rtu (v sp : Bytes) (hlen : v.length = 5) (hbit : (v.getD 1 0) &&& 128 ≠ 0) :
    parseRTUResponse ⟨v, sp⟩ = .err (.excR (v.getD 0 0) (v.getD 1 0 - 128) (v.getD 2 0)) := by
  rw [parseRTUResponse_eq, if_neg (by omega), if_pos ⟨hlen, hbit⟩]

/-- (2) RTU with CRC check: the typed exception when the CRC is right, `ErrInvalidCRC` otherwise - never a value -/
theorem exception_rtu_crc (v sp : Bytes) (hlen : v.length = 5) (hbit : (v.getD 1 0) &&& 128 ≠ 0) :
    parseRTUResponseWithCRC ⟨v, sp⟩ =
      if crcMatches v then .err (.excR (v.getD 0 0) (v.getD 1 0 - 128) (v.getD 2 0)) else .err .badCRC := by
  rw [← exception_rtu v sp hlen hbit]
  exact crcGuard_eq (v := v) (by omega)

/-- (3) a TCP response of a byte-count carrying function is only accepted when its length is 9 + byte count -/
theorem bytecount_mismatch_tcp (mk : UInt8 → UInt8 → Bytes → Resp) (n : Nat) (hn : 9 ≤ n) (v sp : Bytes)
    (hmis : v.length ≠ 9 + (v.getD 8 0).toNat) : ∃ e, parseByteCountRespTCP mk n ⟨v, sp⟩ = .err e := by
  unfold parseByteCountRespTCP
  dsimp only
  by_cases h : v.length < n
  · exact ⟨.plain, by simp only [h, if_true]⟩
  · simp (disch := omega) only [h, if_false, idx_eq, Res.bind_ok, hmis, ne_eq, not_false_eq_true, if_true]
    exact ⟨_, rfl⟩

theorem bytecount_mismatch_rtu (mk : UInt8 → UInt8 → Bytes → Resp) (n : Nat) (hn : 5 ≤ n) (v sp : Bytes)
    (hmis : v.length ≠ 3 + (v.getD 2 0).toNat + 2) : ∃ e, parseByteCountRespRTU mk n ⟨v, sp⟩ = .err e := by
  unfold parseByteCountRespRTU
  dsimp only
  by_cases h : v.length < n
  · exact ⟨.plain, by simp only [h, if_true]⟩
  · simp (disch := omega) only [h, if_false, idx_eq, Res.bind_ok, hmis, ne_eq, not_false_eq_true, if_true]
    exact ⟨_, rfl⟩

/-- (3) for each of FC1, FC2, FC3, FC4, FC23 over TCP -/
theorem bytecount_mismatch_tcp_fc (fc : UInt8) (hfc : fc = 1 ∨ fc = 2 ∨ fc = 3 ∨ fc = 4 ∨ fc = 23) (v sp : Bytes)
    (hmis : v.length ≠ 9 + (v.getD 8 0).toNat) : ∃ e, parseRespTCPfc fc ⟨v, sp⟩ = .err e := by
  rcases hfc with rfl | rfl | rfl | rfl | rfl <;>
    exact bytecount_mismatch_tcp _ _ (by omega) v sp hmis

theorem bytecount_mismatch_rtu_fc (fc : UInt8) (hfc : fc = 1 ∨ fc = 2 ∨ fc = 3 ∨ fc = 4 ∨ fc = 23) (v sp : Bytes)
    (hmis : v.length ≠ 3 + (v.getD 2 0).toNat + 2) : ∃ e, parseRespRTUfc fc ⟨v, sp⟩ = .err e := by
  rcases hfc with rfl | rfl | rfl | rfl | rfl <;>
    exact bytecount_mismatch_rtu _ _ (by omega) v sp hmis

/-! ### the error bit: whatever else a frame looks like, with the high bit of its function byte set the dispatchers never
return it as a response (of any length: a response-shaped frame with the bit set included) -/

theorem respTCPfc_supported (fc : UInt8) (s : Slice) (x : UInt16 × Resp) (h : parseRespTCPfc fc s = .ok x) :
    fc &&& 128 = 0 := by
  unfold parseRespTCPfc at h
  split at h <;> first | decide | (exact absurd h (by simp))

theorem respRTUfc_supported (fc : UInt8) (s : Slice) (x : Resp) (h : parseRespRTUfc fc s = .ok x) :
    fc &&& 128 = 0 := by
  unfold parseRespRTUfc at h
  split at h <;> first | decide | (exact absurd h (by simp))

/-- TCP dispatcher: a returned response has the error bit of byte 7 clear -/
theorem error_bit_never_response_tcp (v sp : Bytes) (x : UInt16 × Resp)
    (h : parseTCPResponse ⟨v, sp⟩ = .ok x) : (v.getD 7 0) &&& 128 = 0 := by
  rw [parseTCPResponse_eq] at h
  split at h
  · cases h
  · split at h
    · cases h
    · exact respTCPfc_supported _ _ x h

/-- RTU dispatchers (with and without the CRC check): a returned response has the error bit of byte 1 clear -/
theorem error_bit_never_response_rtu (v sp : Bytes) (x : Resp)
    (h : parseRTUResponse ⟨v, sp⟩ = .ok x) : (v.getD 1 0) &&& 128 = 0 := by
  rw [parseRTUResponse_eq] at h
  split at h
  · cases h
  · split at h
    · cases h
    · exact respRTUfc_supported _ _ x h

theorem error_bit_never_response_rtu_crc (v sp : Bytes) (x : Resp)
    (h : parseRTUResponseWithCRC ⟨v, sp⟩ = .ok x) : (v.getD 1 0) &&& 128 = 0 :=
  error_bit_never_response_rtu v sp x (crcGuard_eq_ok.1 h).2.2

/-! ### the exception recognisers decide exactly "an exception frame"

`AsTCPErrorPacket` / `AsRTUErrorPacket` (the first is what the TCP client asks after every read; the RTU clients ask the
CRC-verifying twin of the second, see C03) answer every input: an exception for the
nine (five) bytes whose function byte has the error bit, and NOTHING (`nil`, no error at all, no panic) for every other
input - in particular for frames of the exception size that are ordinary replies. -/

theorem recogniser_rtu (v sp : Bytes) :
    asRTUErrorPacket ⟨v, sp⟩ =
      if v.length = 5 ∧ (v.getD 1 0) &&& 128 ≠ 0 then .ok (some (.excR (v.getD 0 0) (v.getD 1 0 - 128) (v.getD 2 0)))
      else .ok none :=
  asRTUErrorPacket_eq v sp

theorem recogniser_tcp (v sp : Bytes) :
    asTCPErrorPacket ⟨v, sp⟩ =
      if v.length = 9 ∧ (v.getD 7 0) &&& 128 ≠ 0 then
        .ok (some (.excT (be16 (v.getD 0 0) (v.getD 1 0)) (v.getD 6 0) (v.getD 7 0 - 128) (v.getD 8 0)))
      else .ok none :=
  asTCPErrorPacket_eq v sp

/-- a frame of the exception size whose function byte has no error bit is not an error of any kind -/
theorem recogniser_rtu_ordinary_reply (v sp : Bytes) (h : (v.getD 1 0) &&& 128 = 0) :
    asRTUErrorPacket ⟨v, sp⟩ = .ok none := by
  rw [recogniser_rtu, if_neg]
  intro hc; exact hc.2 h

/-- non-vacuity: five bytes of an ordinary reply; five bytes of an exception -/
example : asRTUErrorPacket ⟨[1, 3, 2, 0xA1, 0x31], []⟩ = .ok none ∧
    asRTUErrorPacket ⟨[1, 0x83, 2, 0xC0, 0xF1], []⟩ = .ok (some (.excR 1 3 2)) := by decide

end Modbus.Properties.C02
