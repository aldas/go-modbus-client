import ModbusProofs.Lemmas.ClientLoop
/-
  C19 — Client hooks observe exactly the bytes sent, each chunk read and the final frame.

  `served k script acc` is what the transport hands out read by read; `readLoop_log` shows that the
  after-read hook is called with exactly those (bytes, count, error), in order, once per read performed.
  The before-write hook gets the encoded request, the before-parse hook the concatenation of the bytes read,
  and the outcome does not depend on whether hooks are installed.
  Counting: the before-write hook fires exactly once per call, the before-parse hook at most once, a rejected
  write is followed by no other hook, and without hooks nothing is recorded.
-/
namespace Modbus.Properties.C19
open Modbus.Model Modbus.Lemmas

/-- installing hooks never changes the outcome -/
theorem outcome_independent (k : ClientKind) (fl : Flusher) (req : Bytes) (expected : Nat) (w : Bool) (script : List Ev) :
    (doExchange k fl true req expected w script).1 = (doExchange k fl false req expected w script).1 := by
  cases w
  · rw [doExchange_read, doExchange_read]
  · rw [doExchange_writeFails, doExchange_writeFails]

/-- the before-write hook receives exactly the encoded request, first -/
theorem before_write_first (k : ClientKind) (fl : Flusher) (req : Bytes) (expected : Nat) (w : Bool) (script : List Ev) :
    (doExchange k fl true req expected w script).2.head? = some (.beforeWrite req) := by
  cases w
  · rw [doExchange_read]; rfl
  · rw [doExchange_writeFails]; rfl

/-- the after-read hook sees exactly the reads the transport served, in order, one call per read; a frame handed to
the parser is the concatenation of the bytes of those reads -/
theorem after_each_read (k : ClientKind) (fl : Flusher) (expected : Nat) (script : List Ev) :
    ∃ n, n ≤ script.length ∧
      ((readLoop k fl expected script [] []).2 = ((served k script []).take n).map servedHook ∨
       (readLoop k fl expected script [] []).2 = (served k script []).map servedHook ++ [.stall]) ∧
      ∀ bs, (readLoop k fl expected script [] []).1 = .frame bs →
        bs = (((served k script []).take n).map (·.1)).flatten :=
  -- `[] ++ l` is `l` by computation
  readLoop_log k fl expected script [] []

/-- the before-parse hook receives exactly the frame that is parsed, and it is the last hook call -/
theorem before_parse_last (k : ClientKind) (fl : Flusher) (req : Bytes) (expected : Nat) (script : List Ev)
    (bs : Bytes) (log : List HookEv) (h : readLoop k fl expected script [] [] = (.frame bs, log)) :
    (doExchange k fl true req expected false script).2 = [.beforeWrite req] ++ log ++ [.beforeParse bs] := by
  rw [doExchange_read, h]
  rfl

/-- no before-parse call when no frame is handed to the parser -/
theorem no_parse_hook_on_error (k : ClientKind) (fl : Flusher) (req : Bytes) (expected : Nat) (script : List Ev)
    (e : CErr) (log : List HookEv) (h : readLoop k fl expected script [] [] = (.err e, log)) :
    (doExchange k fl true req expected false script).2 = [.beforeWrite req] ++ log := by
  rw [doExchange_read, h]
  exact congrArg _ (List.append_nil log)

/-- non-vacuity: a reply in two chunks with a timeout in between -/
example : (doExchange .tcp .none true [0xAA] 4 false [.data [1, 2], .timeout, .data [3, 4]]).2 =
    [.beforeWrite [0xAA], .afterRead [1, 2] 2 "nil", .afterRead [] 0 "timeout", .afterRead [3, 4] 2 "nil",
     .beforeParse [1, 2, 3, 4]] := by decide

/-- without hooks nothing is recorded -/
theorem hooks_off_silent (k : ClientKind) (fl : Flusher) (req : Bytes) (expected : Nat) (w : Bool) (script : List Ev) :
    (doExchange k fl false req expected w script).2 = [] := by
  cases w
  · rw [doExchange_read]; rfl
  · rw [doExchange_writeFails]; rfl

/-- a rejected write: the hook saw the request, and nothing else (no read was attempted) -/
theorem write_rejected_log (k : ClientKind) (fl : Flusher) (req : Bytes) (expected : Nat) (script : List Ev) :
    (doExchange k fl true req expected true script).2 = [.beforeWrite req] := by
  rw [doExchange_writeFails]
  rfl

def isBW : HookEv → Bool | .beforeWrite _ => true | _ => false
def isBP : HookEv → Bool | .beforeParse _ => true | _ => false

theorem loop_log_plain (k : ClientKind) (fl : Flusher) (expected : Nat) (script : List Ev) :
    ∀ e ∈ (readLoop k fl expected script [] []).2, isBW e = false ∧ isBP e = false := by
  obtain ⟨n, _, h2, _⟩ := readLoop_log k fl expected script [] []
  intro e he
  rcases h2 with h | h <;> rw [h] at he <;>
    simp only [List.nil_append, List.mem_append, List.mem_map, List.mem_singleton] at he
  · obtain ⟨x, _, rfl⟩ := he; exact ⟨rfl, rfl⟩
  · rcases he with ⟨x, _, rfl⟩ | rfl <;> exact ⟨rfl, rfl⟩

/-- the before-write hook fires exactly once per call and the before-parse hook at most once -/
theorem write_hook_once_parse_hook_at_most_once (k : ClientKind) (fl : Flusher) (req : Bytes) (expected : Nat)
    (w : Bool) (script : List Ev) :
    ((doExchange k fl true req expected w script).2.filter isBW).length = 1 ∧
    ((doExchange k fl true req expected w script).2.filter isBP).length ≤ 1 := by
  cases w
  · have hp := loop_log_plain k fl expected script
    have hbw : (readLoop k fl expected script [] []).2.filter isBW = [] :=
      List.filter_eq_nil_iff.mpr (fun e he => by simp [(hp e he).1])
    have hbp : (readLoop k fl expected script [] []).2.filter isBP = [] :=
      List.filter_eq_nil_iff.mpr (fun e he => by simp [(hp e he).2])
    rw [doExchange_read]
    cases (readLoop k fl expected script [] []).1 <;>
      simp [List.filter_cons, hbw, hbp, isBW, isBP, parseHook]
  · rw [doExchange_writeFails]
    exact ⟨rfl, Nat.zero_le 1⟩

end Modbus.Properties.C19
