import ModbusProofs.Properties.C04
import ModbusProofs.Properties.C06
import ModbusProofs.Properties.C13
/-
  C05 — Fields extracted via the request builder equal the device's memory contents.

  Device: a memory image `mem : ℕ → UInt16` per (server, unit); a conforming device answers a read of
  (start, q) with the big-endian bytes of mem(start) … mem(start+q-1) (`regsBytes`), or - for the
  truncation clause - with only the first k registers (1 ≤ k ≤ q).
  `direct mem f` = the field's value decoded directly from the device memory at the field's own
  address with the field's type and byte order (`Spec.access` on exactly the field's registers).
  Theorem `extract_eq`: for every request whose fields start at or after its start address and whose
  window lies in the address space, `ExtractFields` on the (possibly truncated) reply yields, for every
  field in order, `direct mem f` when the field's registers were delivered and an error otherwise;
  strict mode fails as a whole iff some field is unreachable, lenient mode returns every field with
  exactly the unreachable ones failed. `builder_extract`: combined with C06 (every field in exactly one request,
  span inside the window) this holds for every request `split` produces.
-/
namespace Modbus.Properties.C05
open Modbus.Model Modbus.Lemmas

/-- wire bytes of `k` registers of the memory image starting at `addr` -/
def regsBytes (mem : Nat → UInt16) (addr k : Nat) : Bytes :=
  (List.range k).flatMap fun i => put16 (mem (addr + i))

theorem regsBytes_len (mem : Nat → UInt16) (addr k : Nat) : (regsBytes mem addr k).length = 2 * k := by
  unfold regsBytes
  induction k with
  | zero => rfl
  | succ n ih => rw [List.range_succ, List.flatMap_append, List.length_append, ih]; simp [put16]; omega

theorem regsBytes_add (mem : Nat → UInt16) (addr a b : Nat) :
    regsBytes mem addr (a + b) = regsBytes mem addr a ++ regsBytes mem (addr + a) b := by
  unfold regsBytes
  rw [List.range_add, List.flatMap_append, List.flatMap_map]
  simp only [Nat.add_assoc]

theorem window_bytes (mem : Nat → UInt16) (start q addr k : Nat) (h1 : start ≤ addr) (h2 : addr + k ≤ start + q) :
    ((regsBytes mem start q).drop (2 * (addr - start))).take (2 * k) = regsBytes mem addr k := by
  have e : q = (addr - start) + (k + (start + q - (addr + k))) := by omega
  rw [e, regsBytes_add, regsBytes_add, List.drop_left' (regsBytes_len ..), List.take_left' (regsBytes_len ..),
    Nat.add_sub_cancel' h1]

theorem wire_regsBytes (mem : Nat → UInt16) (start q addr k : Nat) :
    Spec.wire (regsBytes mem start q) start addr k =
      if start ≤ addr ∧ addr + k ≤ start + q then some (regsBytes mem addr k) else none := by
  unfold Spec.wire
  rw [regsBytes_len, Nat.mul_div_cancel_left _ (by decide)]
  split
  · next h => rw [window_bytes mem start q addr k h.1 h.2]
  · rfl

/-- the accessor a register field uses and the number of registers it needs -/
theorem field_acc (f : Field) (hv : f.valid = true) (hk : f.isCoil = false) :
    ∃ a, f.acc = some a ∧ Spec.need a = some f.size := by
  unfold Field.valid at hv
  unfold Field.isCoil at hk
  simp only [Bool.and_eq_true, Bool.not_eq_true', bne_iff_ne, decide_eq_true_eq, beq_eq_false_iff_ne] at hv hk
  obtain ⟨⟨⟨⟨_, ht0⟩, ht14⟩, hbit⟩, _⟩ := hv
  have h0 : f.type.toNat ≠ 0 := fun h => ht0 (UInt8.toNat_inj.1 h)
  have h14 : f.type.toNat ≠ 14 := fun h => hk (UInt8.toNat_inj.1 h)
  have key : ∀ n : Nat, f.type.toNat = n → f.type = UInt8.ofNat n := fun n hn => by rw [← hn, UInt8.ofNat_toNat]
  unfold Field.acc Field.size
  by_cases h1 : f.type.toNat = 1
  · rw [key _ h1]; exact ⟨_, rfl, if_pos hbit⟩
  by_cases h13 : f.type.toNat = 13
  · rw [key _ h13]
    refine ⟨_, rfl, congrArg some ?_⟩
    show (f.length.toNat + 1) / 2 = if f.length.toNat % 2 = 0 then f.length.toNat / 2 else f.length.toNat / 2 + 1
    split <;> omega
  -- the types of fixed width: accessor and width by evaluation
  have : f.type.toNat = 2 ∨ f.type.toNat = 3 ∨ f.type.toNat = 4 ∨ f.type.toNat = 5 ∨ f.type.toNat = 6 ∨
      f.type.toNat = 7 ∨ f.type.toNat = 8 ∨ f.type.toNat = 9 ∨ f.type.toNat = 10 ∨ f.type.toNat = 11 ∨
      f.type.toNat = 12 := by omega
  rcases this with h | h | h | h | h | h | h | h | h | h | h <;> rw [key _ h] <;> exact ⟨_, rfl, rfl⟩

/-- the field's value decoded directly from the device memory -/
def direct (mem : Nat → UInt16) (f : Field) : Option Val :=
  match f.acc with
  | none => none
  | some a => Spec.access 9 (regsBytes mem f.addr.toNat f.size) f.addr.toNat a f.addr.toNat

/-- what the specification says one field's extraction yields from a reply of `k` registers starting at `start` -/
def fieldResult (mem : Nat → UInt16) (start k : Nat) (f : Field) : PRes Val :=
  if f.addr.toNat + f.size ≤ start + k then C04.specRes (direct mem f) else .err .plain

theorem access_window (mem : Nat → UInt16) (start k : Nat) (f : Field) (a : Acc) (ha : f.acc = some a)
    (hn : Spec.need a = some f.size) (hlo : start ≤ f.addr.toNat) :
    C04.specRes (Spec.access 9 (regsBytes mem start k) start a f.addr.toNat) = fieldResult mem start k f := by
  unfold fieldResult direct Spec.access
  rw [ha]
  simp only [hn, wire_regsBytes, Nat.le_refl, and_self, if_true, hlo, true_and]
  by_cases hin : f.addr.toNat + f.size ≤ start + k
  · rw [if_pos hin, if_pos hin]
  · rw [if_neg hin, if_neg hin]; rfl

/-- a register field of a request: it has an accessor needing `size` registers and lies at or after the start -/
def FieldIn (start : Nat) (f : Field) : Prop :=
  (∃ a, f.acc = some a ∧ Spec.need a = some f.size) ∧ start ≤ f.addr.toNat

theorem extractFrom_eq (mem : Nat → UInt16) (k : Nat) (r : Registers) (sp : Bytes)
    (wf : RegWF r (regsBytes mem r.start.toNat k) sp k) (ho : r.order = 9) (f : Field)
    (hf : FieldIn r.start.toNat f) :
    f.extractFrom r = (fieldResult mem r.start.toNat k f, r.data) := by
  obtain ⟨⟨a, ha, hn⟩, hlo⟩ := hf
  unfold Field.extractFrom
  rw [ha, ← access_window mem r.start.toNat k f a ha hn hlo, ← ho, ← C04.access_eq_spec r _ sp k wf a f.addr]
  exact Prod.ext rfl (C13.access_preserves r a f.addr)

theorem extractLoop_eq (mem : Nat → UInt16) (k : Nat) (lenient : Bool) (r : Registers) (sp : Bytes)
    (wf : RegWF r (regsBytes mem r.start.toNat k) sp k) (ho : r.order = 9) :
    ∀ (fs : List Field) (acc : List (Field × PRes Val)) (had : Bool), (∀ f ∈ fs, FieldIn r.start.toNat f) →
      extractLoop lenient r fs acc had = specLoop lenient (fieldResult mem r.start.toNat k) fs acc had := by
  intro fs acc had hall
  rw [C13.extract_solo, C13.soloLoop_eq]
  exact specLoop_congr (fun f hf => by rw [extractFrom_eq mem k r sp wf ho f (hall f hf)]) acc had

/-- one request: `ExtractFields` on the reply of `k` registers (1 ≤ k, window inside the address space) is the
specification loop over `fieldResult` -/
theorem extract_eq (mem : Nat → UInt16) (b : BReq) (k : Nat) (sp : Bytes) (lenient : Bool) (hk : 1 ≤ k)
    (hfit : b.start.toNat + k ≤ 65536) (hall : ∀ f ∈ b.fields, FieldIn b.start.toNat f) :
    extractRegisterFields b ⟨regsBytes mem b.start.toNat k, sp⟩ lenient =
      specLoop lenient (fieldResult mem b.start.toNat k) b.fields [] false := by
  unfold extractRegisterFields
  rw [newRegisters_eq _ sp b.start (regsBytes_len ..) hk]
  refine extractLoop_eq mem k lenient _ sp ?_ rfl b.fields [] false hall
  exact ⟨rfl, regsBytes_len .., hk, rfl, hfit⟩

/-- when every field yields a value (for the register loop: every field's registers were delivered, in particular
the full reply, k = q) every field is reported, in order, attached to its own definition, with that value -/
theorem specLoop_all (lenient : Bool) (res : Field → PRes Val) (val : Field → Val) :
    ∀ (fs : List Field) (acc : List (Field × PRes Val)) (had : Bool), (∀ f ∈ fs, res f = .ok (val f)) →
      specLoop lenient res fs acc had =
        (if had then Extracted.some_ (acc ++ fs.map fun f => (f, .ok (val f)))
         else Extracted.all (acc ++ fs.map fun f => (f, .ok (val f)))) := by
  intro fs acc had h
  rw [specLoop_ok (fun f hf => by rw [h f hf]; rfl), List.map_congr_left fun f hf => by rw [h f hf]]
  cases had <;> rfl

/-- strict mode fails as a whole as soon as one field is unreachable -/
theorem specLoop_strict_fails (res : Field → PRes Val) :
    ∀ (fs : List Field) (acc : List (Field × PRes Val)) (had : Bool),
      (∀ f ∈ fs, res f ≠ .panic) → (∃ f ∈ fs, ∃ e, res f = .err e) → specLoop false res fs acc had = .failed := by
  intro fs
  induction fs with
  | nil => intro _ _ _ ⟨_, hf, _⟩; cases hf
  | cons f rest ih =>
    intro acc had hnp ⟨g, hg, e, hge⟩
    obtain ⟨hf, hrest⟩ := List.forall_mem_cons.1 hnp
    unfold specLoop
    cases hres : res f with
    | panic => exact absurd hres hf
    | err e => rfl
    | ok v =>
      rcases List.mem_cons.1 hg with rfl | hg
      · rw [hres] at hge; cases hge
      · exact ih _ _ hrest ⟨g, hg, e, hge⟩

/-- lenient mode returns every field, each with its own result (value or failure) -/
theorem specLoop_lenient (res : Field → PRes Val) :
    ∀ (fs : List Field) (acc : List (Field × PRes Val)) (had : Bool), (∀ f ∈ fs, res f ≠ .panic) →
      specLoop true res fs acc had = .all (acc ++ fs.map fun f => (f, res f)) ∨
      specLoop true res fs acc had = .some_ (acc ++ fs.map fun f => (f, res f)) := by
  intro fs acc had hnp
  rw [specLoop_lenient_eq hnp]
  split
  · exact .inr rfl
  · exact .inl rfl

theorem fieldResult_ne_panic (mem : Nat → UInt16) (start k : Nat) (f : Field) : fieldResult mem start k f ≠ .panic := by
  unfold fieldResult
  split
  · exact C04.specRes_ne_panic _
  · nofun

/-- the requests `split` produces: every field of the requested kind is in exactly one request (C06, permutation),
and every request's fields are register fields lying at or after its start (C06), so `ExtractFields` on a reply of `k`
registers is the specification loop over `fieldResult` (`extract_eq`). That every field is then reported with the value
decoded directly from the device memory when all its registers were delivered is the further step `specLoop_all`. -/
theorem builder_extract (fields : List Field) (target : Nat) (ht : target < 8) (hreg : targetCoils target = false)
    (reqs : List BReq) (h : split fields target = .ok reqs) :
    (reqs.flatMap (·.fields)).Perm (fields.filter fun f => f.isCoil == false) ∧
    ∀ b ∈ reqs, ∀ (mem : Nat → UInt16) (sp : Bytes) (lenient : Bool) (k : Nat), 1 ≤ k →
      b.start.toNat + k ≤ 65536 →
      extractRegisterFields b ⟨regsBytes mem b.start.toNat k, sp⟩ lenient =
        specLoop lenient (fieldResult mem b.start.toNat k) b.fields [] false := by
  obtain ⟨hperm, hreqs⟩ := C06.split_ok fields target ht reqs h
  rw [hreg] at hperm
  refine ⟨hperm, ?_⟩
  intro b hb mem sp lenient k hk hfit
  apply extract_eq mem b k sp lenient hk hfit
  intro f hf
  obtain ⟨q, _, _, _, _, hfs, _, _⟩ := hreqs b hb
  obtain ⟨_, hvalid, hcoil⟩ := C06.split_field ht h hb hf
  exact ⟨field_acc f hvalid (hreg ▸ hcoil), (hfs f hf).2.2.1⟩

/-- non-vacuity: a string field and an overlapping 32-bit field in one request, full reply -/
example : (split [⟨"s", "dev", 1, 10, 13, 0, false, 4, 0⟩, ⟨"n", "dev", 1, 11, 7, 0, false, 0, 0⟩] 4).isOk = true := by
  decide

end Modbus.Properties.C05
