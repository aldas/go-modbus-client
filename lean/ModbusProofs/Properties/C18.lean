import ModbusProofs.Lemmas.Response
import ModbusProofs.Lemmas.RoundTrip
import Modbus.Driver.JudgePacket
/-
  C18 — The TCP stream classifier agrees with the encoders and the request parsers.

  (1) prefixes: for every encoded request frame, every prefix shorter than 8 bytes is "too short",
      every longer prefix (and the whole frame) is accepted with expected length = the frame's
      length = 6 + length field. Known finding (test-pinned): the 8-byte FC17 request (length
      field 2) is rejected by the `pduLen < 3` test - `C18_prefix_partial` excludes exactly FC17.
  (2) agreement: whatever the classifier accepts with expected length n is, once n bytes are
      available, either parsed by the dispatcher or refused with an error that encodes to a valid
      9-byte exception reply carrying the frame's transaction id, unit id and function code.
  (3) unsupported function codes are classified as such, with the matching illegal-function exception.
-/
namespace Modbus.Properties.C18
open Modbus.Model Modbus.Lemmas

/-- the first eight bytes of an encoded TCP request and its total length -/
theorem enc_header (tid : UInt16) (r : Req) :
    (r.bytesTCP tid).getD 0 0 = hi8 tid ∧ (r.bytesTCP tid).getD 1 0 = lo8 tid ∧
    (r.bytesTCP tid).getD 2 0 = 0 ∧ (r.bytesTCP tid).getD 3 0 = 0 ∧
    (r.bytesTCP tid).getD 4 0 = hi8 (UInt16.ofNat r.pdu.length) ∧
    (r.bytesTCP tid).getD 5 0 = lo8 (UInt16.ofNat r.pdu.length) ∧
    (r.bytesTCP tid).getD 6 0 = r.unit ∧ (r.bytesTCP tid).getD 7 0 = r.fc ∧
    (r.bytesTCP tid).length = 6 + r.pdu.length := by
  obtain ⟨t, ht⟩ := pdu_head r
  rw [Req.bytesTCP, ht]
  exact ⟨rfl, rfl, rfl, rfl, rfl, rfl, rfl, rfl, by simp [mbap, put16]; omega⟩

/-- (1) every prefix of fewer than 8 bytes is reported as too short -/
theorem prefix_short (tid : UInt16) (r : Req) (k : Nat) (hk : k < 8) (sp : Bytes) :
    looksLike ⟨(r.bytesTCP tid).take k, sp⟩ false = .ok (0, some .tooShortT) :=
  looksLike_short _ _ _ (by simp; omega)

/-- (1) the whole frame of an encoded request other than FC17 is accepted with its true length -/
theorem enc_looksLike (tid : UInt16) (r : Req) (hl : 3 ≤ r.pdu.length ∧ r.pdu.length < 65536)
    (hfc : supportedFunctionCodes.contains r.fc = true) (sp : Bytes) :
    looksLike ⟨r.bytesTCP tid, sp⟩ false = .ok ((r.bytesTCP tid).length, none) := by
  obtain ⟨-, -, e2, e3, e4, e5, -, e7, hlen⟩ := enc_header tid r
  rw [looksLike_eq _ _ _ (by omega), e2, e3, e4, e5, e7, be16_hi_lo]
  have hn : (UInt16.ofNat r.pdu.length).toNat = r.pdu.length := u16_ofNat_toNat _ hl.2
  have h3 : ¬ UInt16.ofNat r.pdu.length < 3 := not_lt_three.2 (by rw [hn]; exact hl.1)
  have hz : r.fc ≠ 0 := by
    intro h0; rw [h0] at hfc; simp [supportedFunctionCodes] at hfc
  simp only [and_self, not_true_eq_false, if_false, h3, hz, hfc, if_true, Bool.false_eq_true, hn]
  rw [hlen, Nat.add_comm]

/-- (1) every prefix of at least 8 bytes of an encoded request other than FC17 is accepted with the
frame's true length -/
theorem C18_prefix_partial (tid : UInt16) (r : Req) (hl : 3 ≤ r.pdu.length ∧ r.pdu.length < 65536)
    (hfc : supportedFunctionCodes.contains r.fc = true) (k : Nat) (hk : 8 ≤ k) (sp : Bytes) :
    looksLike ⟨(r.bytesTCP tid).take k, sp⟩ false = .ok ((r.bytesTCP tid).length, none) := by
  rw [looksLike_take _ sp sp false k hk (by have := (enc_header tid r).2.2.2.2.2.2.2.2; omega)]
  exact enc_looksLike tid r hl hfc sp

/-- KF-C18-fc17: the FC17 request is rejected as "not Modbus" -/
theorem kf_fc17_witness :
    looksLike ⟨(Req.sid 1).bytesTCP 1, []⟩ false = .ok (0, some .notTCP) ∧
    Driver.kfC18 { fc := 17 } .tcp 8 = some "KF-C18-fc17" := by
  constructor <;> decide

/-- every request value other than FC17 has a PDU of at least 3 bytes: the partial theorem covers them all -/
theorem pdu_ge_three (r : Req) (h : r.fc ≠ 17) : 3 ≤ r.pdu.length := by
  cases r with
  | sid u => exact absurd rfl h
  | _ => simp only [Req.pdu, put16, List.length_append, List.length_cons, List.length_nil]; omega

/-- what the classifier accepts (for every input of any length, any spare capacity): at least 8 bytes, protocol
identifier 0x0000 exactly (both bytes zero - not merely bytes that add up to zero), a length field of at least 3, a
supported function code, and the expected length is 6 + the length field -/
theorem accepted_header (v sp : Bytes) (n : Nat) (h : looksLike ⟨v, sp⟩ false = .ok (n, none)) :
    8 ≤ v.length ∧ v.getD 2 0 = 0 ∧ v.getD 3 0 = 0 ∧ ¬ be16 (v.getD 4 0) (v.getD 5 0) < 3 ∧
      supportedFunctionCodes.contains (v.getD 7 0) = true ∧ n = (be16 (v.getD 4 0) (v.getD 5 0)).toNat + 6 := by
  obtain ⟨h8, hv⟩ := looksLike_frame v sp n none h (by simp) (by simp)
  exact ⟨h8, hv.proto.1, hv.proto.2, hv.field, hv.supported rfl, hv.len_eq⟩

/-- (2) agreement with the dispatcher: if the classifier accepts the header of `v` and `v` has exactly the
announced number of bytes, `ParseTCPRequest` returns a request or an exception addressed to that header -/
theorem agreement (v sp : Bytes) (n : Nat) (h8 : 8 ≤ v.length)
    (hl : looksLike ⟨v.take 8, []⟩ false = .ok (n, none)) (hn : v.length = n) :
    ErrOk (ErrFor v) (parseTCPRequest ⟨v, sp⟩) := by
  rw [looksLike_take v [] [] false 8 (Nat.le_refl 8) h8] at hl
  obtain ⟨-, h2, h3, hlen, hs, hn'⟩ := accepted_header v [] n hl
  exact ((run_parseTCPRequest v sp sp).mono (fun _ h => h) fun _ h =>
    h h8 ⟨by omega, h2, h3, fun h0 => hlen (by rw [h0]; decide), by omega⟩ rfl (by simpa using hs)).errOk

/-- what `ErrFor` means on the wire: the error encodes to a 9-byte exception ADU with the frame's
transaction id, protocol id 0, length 3, the frame's unit id, function code + 0x80 and code 3 -/
theorem errFor_bytes (v : Bytes) (e : PErr) (h : ErrFor v e) :
    e.bytes = some (put16 (be16 (v.getD 0 0) (v.getD 1 0)) ++ [0, 0] ++ put16 3 ++
      [v.getD 6 0, v.getD 7 0 + 128, 3]) := by
  rw [h]; rfl

/-- (3) unsupported function codes (non-zero, header otherwise plausible) are classified together with the
matching illegal-function exception -/
theorem unsupported (v sp : Bytes) (h8 : 8 ≤ v.length) (hp : v.getD 2 0 = 0 ∧ v.getD 3 0 = 0)
    (hlen : ¬ be16 (v.getD 4 0) (v.getD 5 0) < 3) (hfc0 : v.getD 7 0 ≠ 0)
    (hun : supportedFunctionCodes.contains (v.getD 7 0) = false) :
    looksLike ⟨v, sp⟩ false = .ok ((be16 (v.getD 4 0) (v.getD 5 0)).toNat + 6,
      some (.tcp 1 (be16 (v.getD 0 0) (v.getD 1 0)) (v.getD 6 0) (v.getD 7 0))) := by
  rw [looksLike_eq _ _ _ h8]
  simp only [hp, and_self, not_true_eq_false, if_false, hlen, hfc0, hun, Bool.false_eq_true]

/-- non-vacuity of (2): a complete FC3 frame is accepted by the classifier -/
example : looksLike ⟨((Req.read 3 1 107 3).bytesTCP 0x8180).take 8, []⟩ false = .ok (12, none) := by decide

example : looksLike ⟨[0, 1, 0x01, 0xFF, 0, 6, 1, 3, 0, 0, 0, 1], []⟩ false = .ok (0, some .notTCP) := by decide

end Modbus.Properties.C18
