import ModbusProofs.Lemmas.ExtractLoop
/-
  C13 — Reading values out of a response never changes it.

  Every accessor of the model returns its result together with the payload as it is afterwards
  (`Registers.access`); Go accessors work on sub-slices aliasing the payload, so a write through one
  would show up there. After the repair 03f4be9 (`StringWithByteOrder` rearranges a copy) no accessor
  writes: the payload afterwards is the payload before, for every accessor, argument and payload.
  Hence for EVERY sequence of accessor calls the payload is unchanged and every result equals the
  result of the same call made alone on the untouched response - so repetition and reordering
  cannot change any result.
  In the model this holds by construction: `Registers.access` ends in `(res, r.data)`, so `access_preserves`
  is `rfl` and the theorems below say what follows from it. That the Go accessors do not write rests on the
  correspondence check, which compares the real payload bytes after each generated sequence and each result
  with a solo call on a fresh copy.
-/
namespace Modbus.Properties.C13
open Modbus.Model Modbus.Lemmas

/-- one call leaves the payload as it was -/
theorem access_preserves (r : Registers) (a : Acc) (addr : UInt16) : (r.access a addr).2 = r.data := rfl

/-- a sequence of calls, threading the payload through (what a caller observes) -/
def runSeq (r : Registers) : List (Acc × UInt16) → List (PRes Val) × Slice
  | [] => ([], r.data)
  | (a, addr) :: rest =>
    let (res, d') := r.access a addr
    let (more, final) := runSeq { r with data := d' } rest
    (res :: more, final)

/-- every sequence: payload unchanged, and each result is the result of that call alone -/
theorem sequence (r : Registers) (ops : List (Acc × UInt16)) :
    (runSeq r ops).2 = r.data ∧ (runSeq r ops).1 = ops.map fun o => (r.access o.1 o.2).1 := by
  induction ops with
  | nil => exact ⟨rfl, rfl⟩
  | cons o rest ih => exact ⟨ih.1, congrArg (_ :: ·) ih.2⟩

/-- repeating a read gives the same result: equal calls at any two positions of any sequence -/
theorem repeat_same (r : Registers) (ops : List (Acc × UInt16)) (i j : Nat) (h : ops[i]? = ops[j]?) :
    (runSeq r ops).1[i]? = (runSeq r ops).1[j]? := by
  rw [(sequence r ops).2]
  simp only [List.getElem?_map, h]

/-- performing the reads in a different order gives the same results, permuted -/
theorem reorder_same (r : Registers) (ops ops' : List (Acc × UInt16)) (h : ops.Perm ops') :
    ((runSeq r ops).1).Perm ((runSeq r ops').1) := by
  rw [(sequence r ops).2, (sequence r ops').2]
  exact h.map _

/-- non-vacuity: a string read with the big-endian flag set, twice, on overlapping registers -/
example :
    let r : Registers := { order := 9, start := 0, end_ := 2, data := ⟨[0x41, 0x42, 0x43, 0x44], []⟩ }
    (runSeq r [(.str 4, 0), (.str 4, 0), (.u16, 1)]) =
      ([.ok (.str [0x42, 0x41, 0x44, 0x43]), .ok (.str [0x42, 0x41, 0x44, 0x43]), .ok (.u 16 0x4344)],
       ⟨[0x41, 0x42, 0x43, 0x44], []⟩) := by decide

/-! ### sequences in which the view is configured again (`WithByteOrder`) between reads

A caller may configure the view, read, configure it differently and read again. Nothing a read does stays behind: each
result is the result of the same call made alone on a view configured with the order in force at that point, and the
payload is the payload of the response - whatever was read or configured before. -/

/-- a step of a caller's program: an accessor call, or `WithByteOrder o` -/
inductive Step where
  | acc (a : Acc) (addr : UInt16)
  | wbo (o : ByteOrder)

/-- run a program, threading payload and configured order through; the results of the accessor calls, in order -/
def runSteps (r : Registers) : List Step → List (PRes Val) × Slice
  | [] => ([], r.data)
  | .wbo o :: rest => runSteps { r with order := o } rest
  | .acc a addr :: rest =>
    let (res, d') := r.access a addr
    let (more, final) := runSteps { r with data := d' } rest
    (res :: more, final)

/-- the same program on views that are new at every step: only the configured order is carried along -/
def soloSteps (r : Registers) : List Step → List (PRes Val)
  | [] => []
  | .wbo o :: rest => soloSteps { r with order := o } rest
  | .acc a addr :: rest => (r.access a addr).1 :: soloSteps r rest

theorem sequence_reconfigured (r : Registers) (steps : List Step) :
    (runSteps r steps).2 = r.data ∧ (runSteps r steps).1 = soloSteps r steps := by
  induction steps generalizing r with
  | nil => exact ⟨rfl, rfl⟩
  | cons st rest ih =>
    cases st with
    | wbo o => exact ih _
    | acc a addr => exact ⟨(ih r).1, congrArg (_ :: ·) (ih r).2⟩

theorem soloSteps_acc (r : Registers) (ops : List (Acc × UInt16)) (rest : List Step) :
    soloSteps r (ops.map (fun x => Step.acc x.1 x.2) ++ rest) =
      (ops.map fun x => (r.access x.1 x.2).1) ++ soloSteps r rest := by
  induction ops with
  | nil => rfl
  | cons x ops ih => simp only [List.map_cons, List.cons_append, soloSteps, ih]

/-- a read before the view is configured leaves nothing behind: the reads after `WithByteOrder o` are the reads of a
view configured with `o` that was never read before -/
theorem reads_before_configuring_leave_nothing (r : Registers) (before after : List (Acc × UInt16)) (o : ByteOrder) :
    (runSteps r (before.map (fun x => Step.acc x.1 x.2) ++ [Step.wbo o] ++ after.map (fun x => Step.acc x.1 x.2))).1 =
      (before.map fun x => (r.access x.1 x.2).1) ++ (after.map fun x => (({ r with order := o } : Registers).access x.1 x.2).1) := by
  rw [(sequence_reconfigured r _).2, List.append_assoc, soloSteps_acc, List.singleton_append, soloSteps,
    ← List.append_nil (after.map _), soloSteps_acc, soloSteps, List.append_nil]

/-- non-vacuity: big-endian read, reconfigured little endian, the same register read again (and "no order" last) -/
example :
    let r : Registers := { order := 9, start := 10, end_ := 12, data := ⟨[0x12, 0x34, 0x56, 0x78], []⟩ }
    (runSteps r [.acc .u16 10, .wbo 10, .acc .u16 10, .wbo 0, .acc .u16 10]).1 =
      [.ok (.u 16 0x1234), .ok (.u 16 0x3412), .ok (.u 16 0x1234)] := by decide

/-! ### `ExtractFields`: the fields of one request are decoded independently of each other

`extractLoop` (the model of `BuilderRequest.extractRegisterFields`) threads the payload each `Field.ExtractFrom` leaves
behind into the next one. Because no accessor writes, every field's result is the result of extracting that field
ALONE from the untouched response, whatever came before it - for every payload (also truncated ones), every list of
fields (overlapping, repeated, unsorted, invalid) and both error modes. -/

/-- one `Field.ExtractFrom` leaves the payload as it was -/
theorem extractFrom_preserves (f : Field) (r : Registers) : (f.extractFrom r).2 = r.data := by
  unfold Field.extractFrom
  cases f.acc <;> rfl

/-- the payload after extracting a whole list of fields one after the other -/
def payloadAfter (r : Registers) (fs : List Field) : Slice :=
  fs.foldl (fun d f => (f.extractFrom { r with data := d }).2) r.data

theorem payloadAfter_eq (r : Registers) (fs : List Field) : payloadAfter r fs = r.data := by
  unfold payloadAfter
  generalize r.data = d
  induction fs generalizing d with
  | nil => rfl
  | cons f rest ih =>
    rw [List.foldl_cons, extractFrom_preserves]
    exact ih d

/-- the loop of `ExtractFields` driven by "this field alone on the untouched response" -/
def soloLoop (lenient : Bool) (r : Registers) : List Field → List (Field × PRes Val) → Bool → Extracted
  | [], acc, had => if had then .some_ acc else .all acc
  | f :: rest, acc, had =>
    match (f.extractFrom r).1 with
    | .ok v => soloLoop lenient r rest (acc ++ [(f, .ok v)]) had
    | .err e => if !lenient then .failed else soloLoop lenient r rest (acc ++ [(f, .err e)]) true
    | .panic => .panicked

theorem soloLoop_eq (lenient : Bool) (r : Registers) (fs : List Field) (acc : List (Field × PRes Val)) (had : Bool) :
    soloLoop lenient r fs acc had = C05.specLoop lenient (fun f => (f.extractFrom r).1) fs acc had := by
  induction fs generalizing acc had with
  | nil => rfl
  | cons f rest ih => simp only [soloLoop, C05.specLoop, ih]; rfl

/-- `ExtractFields` = every field on its own, for every response and every field list -/
theorem extract_solo (lenient : Bool) (r : Registers) :
    ∀ (fs : List Field) (acc : List (Field × PRes Val)) (had : Bool),
      extractLoop lenient r fs acc had = soloLoop lenient r fs acc had := by
  intro fs
  induction fs with
  | nil => intro acc had; rfl
  | cons f rest ih =>
    intro acc had
    have hr : ({ r with data := (f.extractFrom r).2 } : Registers) = r := by rw [extractFrom_preserves]
    unfold extractLoop soloLoop
    cases hres : (f.extractFrom r).1 <;> simp only [hres, hr, ih]

/-- the values a lenient `ExtractFields` reports (none when it panicked) -/
def valuesOf : Extracted → Option (List (Field × PRes Val))
  | .all vs => some vs
  | .some_ vs => some vs
  | _ => none

/-- lenient mode: the reported list is, in order, every field with its own solo result -/
theorem lenient_values (r : Registers) :
    ∀ (fs : List Field) (acc : List (Field × PRes Val)) (had : Bool), (∀ f ∈ fs, (f.extractFrom r).1 ≠ .panic) →
      valuesOf (extractLoop true r fs acc had) = some (acc ++ fs.map fun f => (f, (f.extractFrom r).1)) := by
  intro fs acc had hnp
  rw [extract_solo, soloLoop_eq, specLoop_lenient_eq hnp]
  split <;> rfl

/-- the error flag of a lenient `ExtractFields`: set exactly when it was set before or some field failed
(not only the last one, and a failure never leaks into the fields after it) -/
theorem lenient_flag (r : Registers) :
    ∀ (fs : List Field) (acc : List (Field × PRes Val)) (had : Bool), (∀ f ∈ fs, (f.extractFrom r).1 ≠ .panic) →
      ((∃ vs, extractLoop true r fs acc had = .some_ vs) ↔
        (had = true ∨ ∃ f ∈ fs, ∃ e, (f.extractFrom r).1 = .err e)) := by
  intro fs acc had hnp
  rw [extract_solo, soloLoop_eq, specLoop_lenient_eq hnp]
  simp only [← Res.isErr_iff, ← List.any_eq_true, ← Bool.or_eq_true]
  split <;> simp [*]

/-- extracting the fields in a different order reports the same (field, result) pairs, permuted -/
theorem lenient_reorder (r : Registers) (fs fs' : List Field) (h : fs.Perm fs')
    (hnp : ∀ f ∈ fs, (f.extractFrom r).1 ≠ .panic) :
    ∃ vs vs', valuesOf (extractLoop true r fs [] false) = some vs ∧
      valuesOf (extractLoop true r fs' [] false) = some vs' ∧ vs.Perm vs' := by
  refine ⟨_, _, lenient_values r fs [] false hnp,
    lenient_values r fs' [] false (fun f hf => hnp f (h.mem_iff.mpr hf)), ?_⟩
  simp only [List.nil_append]
  exact h.map _

/-- non-vacuity: an unreachable field first, a good one after it (the order no unit test uses) -/
example :
    let r : Registers := { order := 9, start := 10, end_ := 12, data := ⟨[0x12, 0x34, 0x56, 0x78], []⟩ }
    let bad : Field := { name := "b", server := "s", unit := 1, addr := 40, type := 5, bit := 0, fromHigh := false, length := 0, order := 0 }
    let good : Field := { name := "g", server := "s", unit := 1, addr := 11, type := 5, bit := 0, fromHigh := false, length := 0, order := 0 }
    valuesOf (extractLoop true r [bad, good] [] false) = some [(bad, .err .plain), (good, .ok (.u 16 0x5678))] := by
  decide

end Modbus.Properties.C13
