import ModbusProofs.Lemmas.RoundTrip
import ModbusProofs.Properties.C01
/-
  C09 — Legal requests survive encode → parse unchanged; illegal ones are refused.

  Round trip: for every request the constructors produce from specification-legal arguments,
  every applicable parser (per-function and dispatcher; TCP, RTU, RTU with CRC check, and the RTU
  per-function parsers on the frame without its CRC) returns exactly that request - hence it
  re-encodes to the same bytes. Known finding (test-pinned): the FC1/FC2 request parsers only
  accept quantities 1..125 (`Driver.kfC09` is the region 126..2000).
  Refusal: whatever a request parser accepts has its quantity / count / coil value inside the
  specification's limits and equal to the frame's own bytes - so a frame whose quantity field is
  outside the limits is never decoded.
-/
namespace Modbus.Properties.C09
open Modbus.Model Modbus.Lemmas Modbus.Properties.C01

theorem u16_le_ofNat (q : UInt16) (m : Nat) (hm : m < 65536) (h : q.toNat ≤ m) : q ≤ UInt16.ofNat m :=
  UInt16.le_iff_toNat_le.2 (by rwa [u16_ofNat_toNat m hm])

theorem u16_ge_one (q : UInt16) (h : 1 ≤ q.toNat) : q ≥ 1 := by
  apply UInt16.le_iff_toNat_le.2
  simpa using h

theorem ofNat_range (n hi : Nat) (hhi : hi < 65536) (h1 : 1 ≤ n) (h2 : n ≤ hi) :
    UInt16.ofNat n ≥ 1 ∧ UInt16.ofNat n ≤ UInt16.ofNat hi := by
  have hn : (UInt16.ofNat n).toNat = n := u16_ofNat_toNat n (by omega)
  exact ⟨u16_ge_one _ (by omega), u16_le_ofNat _ hi hhi (by omega)⟩

/-- requests built from legal arguments outside the known-finding region are accepted back by the parsers -/
theorem legal_parserLegal (a : NewArgs) (r : Req) (hwf : WF a) (h : newReq a = .ok r)
    (hleg : Spec.legal a = true) (hkf : Driver.kfC09 a = none) : Req.ParserLegal r := by
  unfold WF at hwf
  refine newReq_cases (motive := fun _ r => Req.ParserLegal r) h ?_ ?_ ?_ ?_ ?_ ?_ ?_ ?_
  · intro hfc h1 h2
    have hk : a.qty.toNat ≤ 125 := Nat.le_of_not_lt fun hgt => by
      have : 126 ≤ a.qty.toNat := hgt
      rcases hfc with e | e <;> simp [Driver.kfC09, e, this, h2] at hkf
    exact ⟨by rcases hfc with e | e <;> simp [e], u16_ge_one _ h1, u16_le_ofNat _ 125 (by decide) hk⟩
  · intro hfc h1 h2
    exact ⟨by rcases hfc with e | e <;> simp [e], u16_ge_one _ h1, u16_le_ofNat _ 125 (by decide) h2⟩
  · exact fun _ => trivial
  · exact fun _ => trivial
  · intro hfc h1 h2
    have ⟨g1, g2⟩ := ofNat_range a.coils.length 1968 (by decide) h1 h2
    exact ⟨g1, g2, by simp [coilsToBytes]; omega⟩
  · intro hfc hev h1 h2
    simp only [Spec.legal, hfc, Bool.and_eq_true, decide_eq_true_eq] at hleg
    have ⟨g1, g2⟩ := ofNat_range (a.dataLen / 2) 123 (by decide) h1 hleg.2
    exact ⟨g1, g2, by omega, by omega⟩
  · exact fun _ => trivial
  · intro hfc h1 h2 hev h3 h4
    simp only [Spec.legal, hfc, Bool.and_eq_true, decide_eq_true_eq] at hleg
    have ⟨g1, g2⟩ := ofNat_range (a.dataLen / 2) 121 (by decide) h3 hleg.2
    exact ⟨u16_ge_one _ h1, u16_le_ofNat _ 125 (by decide) hleg.1.1.1.2, g1, g2, by omega, by omega⟩

/-- what C09's round-trip clause demands of one constructed request -/
def RoundTrips (tid : UInt16) (r : Req) : Prop :=
  (∀ sp, parseReqTCPfc r.fc ⟨r.bytesTCP tid, sp⟩ = .ok (tid, r)) ∧
  (∀ sp, parseTCPRequest ⟨r.bytesTCP tid, sp⟩ = .ok (tid, r)) ∧
  (∀ sp, parseReqRTUfc r.fc ⟨r.bytesRTU, sp⟩ = .ok r) ∧
  (∀ sp, parseRTURequest ⟨r.bytesRTU, sp⟩ = .ok r) ∧
  (∀ sp, parseRTURequestWithCRC ⟨r.bytesRTU, sp⟩ = .ok r) ∧
  (∀ sp, parseReqRTUfc r.fc ⟨r.pdu, sp⟩ = .ok r)

theorem roundTrips_of_parserLegal (tid : UInt16) (r : Req) (h : Req.ParserLegal r) : RoundTrips tid r := by
  refine ⟨fun sp => rt_tcp_fc tid r h sp, fun sp => rt_tcp tid r h sp, fun sp => ?_,
    fun sp => rt_rtu r h sp, fun sp => rt_rtu_crc r h sp, fun sp => ?_⟩
  · exact rt_rtu_fc r h _ sp (.inr rfl)
  · have := rt_rtu_fc r h [] sp (.inl rfl)
    simpa using this

/-- the full statement: every legal request the library constructs round-trips -/
def C09_full : Prop :=
  ∀ (tid : UInt16) (a : NewArgs) (r : Req), WF a → newReq a = .ok r → Spec.legal a = true → RoundTrips tid r

/-- the full statement outside the FC1/FC2 126..2000 region -/
theorem C09_roundtrip_partial (tid : UInt16) (a : NewArgs) (r : Req) (hwf : WF a) (h : newReq a = .ok r)
    (hleg : Spec.legal a = true) (hkf : Driver.kfC09 a = none) : RoundTrips tid r :=
  roundTrips_of_parserLegal tid r (legal_parserLegal a r hwf h hleg hkf)

/-- KF-C09-fc1-126-2000: a legal read of 126 coils is constructed, encoded and then refused -/
theorem kf_fc1_witness :
    ∃ a r, WF a ∧ newReq a = .ok r ∧ Spec.legal a = true ∧ Driver.kfC09 a = some "KF-C09-fc1-126-2000" ∧
      parseTCPRequest ⟨r.bytesTCP 1, []⟩ = .err (.tcp 3 1 0 1) :=
  ⟨{ fc := 1, qty := 126 }, .read 1 0 0 126, by decide, by decide, by decide, by decide, by decide⟩

theorem kf_fc2_witness :
    ∃ a r, WF a ∧ newReq a = .ok r ∧ Spec.legal a = true ∧ Driver.kfC09 a = some "KF-C09-fc2-126-2000" ∧
      parseTCPRequest ⟨r.bytesTCP 1, []⟩ = .err (.tcp 3 1 0 2) :=
  ⟨{ fc := 2, qty := 126 }, .read 2 0 0 126, by decide, by decide, by decide, by decide, by decide⟩

theorem C09_full_false : ¬ C09_full := by
  intro h
  obtain ⟨a, r, hwf, hn, hl, _, hp⟩ := kf_fc1_witness
  have := (h 1 a r hwf hn hl).2.1 []
  rw [hp] at this
  exact absurd this (by simp)

/-- Refusal, TCP: anything a TCP request parser accepts consists of the frame's own fields with
quantities inside the limits (read 1..125, coils 1..1968, registers 1..123, read/write 1..125 / 1..121,
coil value FF00 or 0000). A frame with an out-of-range quantity can therefore not be accepted. -/
theorem accepted_tcp (v sp : Bytes) (x : UInt16 × Req) (h : parseTCPRequest ⟨v, sp⟩ = .ok x) :
    AcceptedTCP (v.getD 7 0) v x := (run_parseTCPRequest v sp sp).okSat.elim h

theorem accepted_tcp_fc (fc : UInt8) (v sp : Bytes) (x : UInt16 × Req) (h : parseReqTCPfc fc ⟨v, sp⟩ = .ok x) :
    AcceptedTCP fc v x := (run_parseReqTCPfc fc v sp sp).okSat.elim h

/-- Refusal, RTU (all three entry points) -/
theorem accepted_rtu (v sp : Bytes) (r : Req) :
    (parseRTURequest ⟨v, sp⟩ = .ok r → AcceptedRTU (v.getD 1 0) v r) ∧
    (parseRTURequestWithCRC ⟨v, sp⟩ = .ok r → AcceptedRTU (v.getD 1 0) v r) :=
  ⟨fun h => (run_parseRTURequest v sp sp).okSat.elim h, fun h => (run_parseRTURequestWithCRC v sp sp).okSat.elim h⟩

theorem accepted_rtu_fc (fc : UInt8) (v sp : Bytes) (r : Req) (h : parseReqRTUfc fc ⟨v, sp⟩ = .ok r) :
    AcceptedRTU fc v r := (run_parseReqRTUfc fc v sp sp).okSat.elim h

/-- the refusal clause spelled out for one function: a TCP FC3 frame whose quantity field is 0 or
above 125 is never decoded -/
theorem fc3_quantity_refused (v sp : Bytes) (x : UInt16 × Req)
    (hq : ¬ (be16 (v.getD 10 0) (v.getD 11 0) ≥ 1 ∧ be16 (v.getD 10 0) (v.getD 11 0) ≤ 125)) :
    parseReqTCPfc 3 ⟨v, sp⟩ ≠ .ok x := by
  intro h
  have hacc := accepted_tcp_fc 3 v sp x h
  obtain ⟨_, _, hfc, _, hf⟩ := hacc
  cases hx : x.2 with
  | read fc u a q =>
    rw [hx] at hf
    simp only [FieldsOf, getD_drop, Nat.reduceAdd] at hf
    exact hq ⟨hf.2.1 ▸ hf.2.2.1, hf.2.1 ▸ hf.2.2.2⟩
  | _ => rw [hx] at hfc; simp [Req.fc] at hfc

/-- non-vacuity: a maximal legal FC16 request (123 registers) meets the hypotheses of the round trip -/
example : Req.ParserLegal (.wregs 1 2 123 (List.replicate 246 0)) := by
  refine ⟨by decide, by decide, ?_, ?_⟩ <;> rw [List.length_replicate] <;> decide

end Modbus.Properties.C09
