import ModbusProofs.Lemmas.ClientLoop
/-
  C12 — Over RTU, a bad-CRC reply is never surfaced as data or as a device exception.

  For the RTU network client and the serial client, for EVERY transport script (every corruption, truncation,
  extension and fragmentation is some script):
    * if the call returns a response, the frame it was parsed from ends with the CRC of its other bytes;
    * if the call returns a device exception, the five bytes it was recognised on end with their CRC - whether the
      read loop recognised it (`exception_has_crc`) or the response parser did (`parsed_exception_has_crc`).
  Contrapositive: bytes whose trailing CRC is inconsistent are never returned as a response or as a device
  exception. (Before the repair 31b1edb the exception shortcut of the read loop ran before any CRC check.)
-/
namespace Modbus.Properties.C12
open Modbus.Model Modbus.Lemmas

/-- the CRC is checked before anything else is looked at -/
theorem parse_bad_crc (bs : Bytes) (hc : crcMatches bs ≠ true) :
    parseRTUResponseWithCRC ⟨bs, []⟩ = .err .plain ∨ parseRTUResponseWithCRC ⟨bs, []⟩ = .err .badCRC :=
  crcGuard_bad hc

/-- `hloop`: `out` is not an error passed on from the read loop; `hp`, `hb`: nor one of the two errors the parser has for
a frame whose CRC does not match (`parse_bad_crc`). What is left was parsed from a frame with a matching CRC. -/
theorem frame_has_crc (k : ClientKind) (hk : k.framing = .rtu) (fl : Flusher) (hooks : Bool) (req : Bytes)
    (expected : Nat) (script : List Ev) (out : DoOut)
    (h : (doExchange k fl hooks req expected false script).1 = out)
    (hloop : ∀ e log, readLoop k fl expected script [] [] = (.err e, log) → out ≠ .err e)
    (hp : out ≠ .err (.parse .plain)) (hb : out ≠ .err (.parse .badCRC)) :
    ∃ bs log, readLoop k fl expected script [] [] = (.frame bs, log) ∧ crcMatches bs = true := by
  rw [doExchange_read] at h
  rcases hrl : readLoop k fl expected script [] [] with ⟨bs | e, log⟩ <;> rw [hrl] at h
  · refine ⟨bs, log, rfl, Decidable.byContradiction fun hc => ?_⟩
    unfold replyOut at h
    rw [hk] at h
    dsimp only at h
    rcases parse_bad_crc bs hc with h' | h' <;> rw [h'] at h
    · exact hp h.symm
    · exact hb h.symm
  · exact absurd h.symm (hloop e log hrl)

/-- a successful RTU call: the accumulated frame carries a matching CRC -/
theorem response_has_crc (k : ClientKind) (hk : k.framing = .rtu) (fl : Flusher) (hooks : Bool) (req : Bytes)
    (expected : Nat) (script : List Ev) (r : Resp) (t : Option UInt16)
    (h : (doExchange k fl hooks req expected false script).1 = .ok r t) :
    ∃ bs log, readLoop k fl expected script [] [] = (.frame bs, log) ∧ crcMatches bs = true :=
  frame_has_crc k hk fl hooks req expected script _ h (fun _ _ _ => nofun) nofun nofun

/-- a device exception returned by an RTU client was recognised on bytes with a matching CRC -/
theorem exception_has_crc (k : ClientKind) (hk : k.framing = .rtu) (fl : Flusher) (expected : Nat) (script : List Ev)
    (e : PErr) (log : List HookEv) (h : readLoop k fl expected script [] [] = (.err (.exc e), log)) :
    ∃ p, asProtocolError k p = some e ∧ crcMatches p = true := by
  obtain ⟨n, _, hp⟩ := readLoop_exc_src_at h
  exact ⟨_, hp, asProtocolError_rtu_crc hk hp⟩

/-- the other way an exception can reach the caller: the read loop hands a frame to the parser and the PARSER reports
the exception (a read-server-id request expects 2 bytes, or the peer closes right after a 5-byte frame). Also then the
frame carries a matching CRC: the CRC is checked before anything else is looked at. -/
theorem parsed_exception_has_crc (k : ClientKind) (hk : k.framing = .rtu) (fl : Flusher) (hooks : Bool) (req : Bytes)
    (expected : Nat) (script : List Ev) (u fc c : UInt8)
    (h : (doExchange k fl hooks req expected false script).1 = .err (.parse (.excR u fc c))) :
    ∃ bs log, readLoop k fl expected script [] [] = (.frame bs, log) ∧ crcMatches bs = true := by
  refine frame_has_crc k hk fl hooks req expected script _ h (fun e log hrl he => ?_) nofun nofun
  -- errors of the read loop are never `parse` errors
  cases he
  rcases readLoop_err_class hrl with x | x | x | x | x | x | ⟨_, x⟩ <;> cases x

/-- the five noise bytes `01 83 02 de ad`, which the unrepaired clients reported as exception code 2 -/
example : asProtocolError .serial [0x01, 0x83, 0x02, 0xde, 0xad] = none := by decide +kernel
example : (doExchange .serial .none false [] 8 false [.data [0x01, 0x83, 0x02, 0xde, 0xad]]).1 = .err .timeout := by decide +kernel
/-- a genuine exception frame is still recognised -/
example : asProtocolError .rtuNet (withCrc [0x0a, 0x81, 0x02]) = some (.excR 0x0a 1 2) := by decide +kernel

/-! ### the statement in terms of what the transport delivered

`receivedAfter k script [] n` is what the client has received after the first `n` reads of the script. Whatever a
client hands to its caller - a response, or a device exception recognised by the read loop or by the parser - was
decided on the bytes received at SOME read boundary, and those bytes end with the CRC of the others. Hence: if at no
read boundary the received bytes are CRC-consistent (every corruption, truncation, extension and insertion of a valid
reply that leaves the trailer inconsistent, however it is cut into reads), the call returns neither. -/

theorem response_at_consistent_boundary (k : ClientKind) (hk : k.framing = .rtu) (fl : Flusher) (hooks : Bool)
    (req : Bytes) (expected : Nat) (script : List Ev) (r : Resp) (t : Option UInt16)
    (h : (doExchange k fl hooks req expected false script).1 = .ok r t) :
    ∃ n, n ≤ script.length ∧ crcMatches (receivedAfter k script [] n) = true := by
  obtain ⟨bs, log, hrl, hc⟩ := response_has_crc k hk fl hooks req expected script r t h
  obtain ⟨n, hn, hbs⟩ := readLoop_frame_at hrl
  exact ⟨n, hn, hbs ▸ hc⟩

theorem loop_exception_at_consistent_boundary (k : ClientKind) (hk : k.framing = .rtu) (fl : Flusher)
    (expected : Nat) (script : List Ev) (e : PErr) (log : List HookEv)
    (h : readLoop k fl expected script [] [] = (.err (.exc e), log)) :
    ∃ n, n ≤ script.length ∧ crcMatches (receivedAfter k script [] n) = true := by
  obtain ⟨n, hn, hp⟩ := readLoop_exc_src_at h
  exact ⟨n, hn, asProtocolError_rtu_crc hk hp⟩

theorem parsed_exception_at_consistent_boundary (k : ClientKind) (hk : k.framing = .rtu) (fl : Flusher)
    (hooks : Bool) (req : Bytes) (expected : Nat) (script : List Ev) (u fc c : UInt8)
    (h : (doExchange k fl hooks req expected false script).1 = .err (.parse (.excR u fc c))) :
    ∃ n, n ≤ script.length ∧ crcMatches (receivedAfter k script [] n) = true := by
  obtain ⟨bs, log, hrl, hc⟩ := parsed_exception_has_crc k hk fl hooks req expected script u fc c h
  obtain ⟨n, hn, hbs⟩ := readLoop_frame_at hrl
  exact ⟨n, hn, hbs ▸ hc⟩

/-- C12. If the bytes received are CRC-inconsistent at every read boundary, then (1) the call (`doExchange`) returns no
response, (2) the read loop (`readLoop`) does not end in a device exception, and (3) the call returns no device exception
reported by the parser -/
theorem corrupted_never_surfaces (k : ClientKind) (hk : k.framing = .rtu) (fl : Flusher) (hooks : Bool)
    (req : Bytes) (expected : Nat) (script : List Ev)
    (hbad : ∀ n, n ≤ script.length → crcMatches (receivedAfter k script [] n) = false) :
    (∀ r t, (doExchange k fl hooks req expected false script).1 ≠ .ok r t) ∧
    (∀ e log, readLoop k fl expected script [] [] ≠ (.err (.exc e), log)) ∧
    (∀ u fc c, (doExchange k fl hooks req expected false script).1 ≠ .err (.parse (.excR u fc c))) := by
  have no : ¬ ∃ n, n ≤ script.length ∧ crcMatches (receivedAfter k script [] n) = true :=
    fun ⟨n, hn, hc⟩ => Bool.false_ne_true ((hbad n hn).symm.trans hc)
  exact ⟨fun r t h => no (response_at_consistent_boundary k hk fl hooks req expected script r t h),
    fun e log h => no (loop_exception_at_consistent_boundary k hk fl expected script e log h),
    fun u fc c h => no (parsed_exception_at_consistent_boundary k hk fl hooks req expected script u fc c h)⟩

/-- the hypothesis is satisfiable: a reply with one flipped bit, delivered in two reads with a junk-free timeout between -/
example : ∀ n, n ≤ 3 →
    crcMatches (receivedAfter .serial [.data [0x01, 0x03, 0x02, 0x00], .timeout, .data [0x0b, 0xf8, 0x43]] [] n) = false := by
  decide +kernel

end Modbus.Properties.C12
