import ModbusProofs.Lemmas.Frames
import Mathlib.Tactic.SplitIfs
import Modbus.Driver.JudgePacket
/-
  C01 — Encoded requests are exactly the ADUs the Modbus specification defines.

  `Spec.adu`, `Spec.legal`, `Spec.maxADU` (Modbus/Spec/Frames.lean) are written from the Modbus
  documents; `newReq`, `Req.bytes` are the model of the 20 constructors and their `Bytes()`.
  The unchanged code violates the property in two regions (both pinned by existing tests, so
  recorded as known findings, not repaired): the FC16 constructors accept 124 registers and the
  FC23 constructors 122..124 write registers. `Driver.kfC01` is the exact region predicate the
  correspondence driver uses; the theorem is proved for everything outside it.
-/
namespace Modbus.Properties.C01
open Modbus.Model Modbus.Lemmas

/-- the argument record is consistent: `dataLen` is the length of `data` -/
def WF (a : NewArgs) : Prop := a.dataLen = a.data.length

instance (a : NewArgs) : Decidable (WF a) := by unfold WF; infer_instance

theorem u16_pos_le (q : UInt16) (m : Nat) (hm : m < 65536)
    (h : ¬((q == 0 || q > UInt16.ofNat m) = true)) : 1 ≤ q.toNat ∧ q.toNat ≤ m := by
  simp only [Bool.or_eq_true, beq_iff_eq, decide_eq_true_eq, not_or, gt_iff_lt, UInt16.not_lt] at h
  obtain ⟨h0, hle⟩ := h
  constructor
  · rcases Nat.eq_zero_or_pos q.toNat with hz | hp
    · exact absurd (UInt16.toNat_inj.1 (by simpa using hz)) h0
    · exact hp
  · have := UInt16.le_iff_toNat_le.1 hle
    simpa [UInt16.toNat_ofNat', Nat.mod_eq_of_lt hm] using this

theorem read_case (fc : UInt8) (hfc : fc = 1 ∨ fc = 2 ∨ fc = 3 ∨ fc = 4) (a : NewArgs) (hafc : a.fc = fc) :
    (Req.read fc a.unit a.addr a.qty).pdu = a.unit :: Spec.pdu a := by
  unfold Req.pdu Spec.pdu
  rcases hfc with h | h | h | h <;> subst h <;> simp [hafc, put16_eq_be]

/-- what C01 demands of one constructor call -/
def Holds (f : Framing) (tid : UInt16) (a : NewArgs) (r : Req) : Prop :=
  Spec.legal a = true ∧ r.bytes f tid = Spec.adu f tid a ∧ (r.bytes f tid).length ≤ Spec.maxADU f

/-- the property at full strength: every request the library agrees to construct -/
def C01_full : Prop :=
  ∀ (f : Framing) (tid : UInt16) (a : NewArgs) (r : Req), WF a → newReq a = .ok r → Holds f tid a r

/-- the successful calls of the constructors, with their own limits as facts about natural numbers: the case
analysis behind every statement of the form `newReq a = .ok r → …` -/
theorem newReq_cases {motive : NewArgs → Req → Prop} {a : NewArgs} {r : Req} (h : newReq a = .ok r)
    (bits : (a.fc = 1 ∨ a.fc = 2) → 1 ≤ a.qty.toNat → a.qty.toNat ≤ 2000 → motive a (.read a.fc a.unit a.addr a.qty))
    (regs : (a.fc = 3 ∨ a.fc = 4) → 1 ≤ a.qty.toNat → a.qty.toNat ≤ 125 → motive a (.read a.fc a.unit a.addr a.qty))
    (wcoil : a.fc = 5 → motive a (.wcoil a.unit a.addr a.state))
    (wreg : a.fc = 6 → motive a (.wreg a.unit a.addr (a.data.getD 0 0) (a.data.getD 1 0)))
    (wcoils : a.fc = 15 → 1 ≤ a.coils.length → a.coils.length ≤ 1968 →
      motive a (.wcoils a.unit a.addr (UInt16.ofNat a.coils.length) (coilsToBytes a.coils)))
    (wregs : a.fc = 16 → a.dataLen % 2 = 0 → 1 ≤ a.dataLen / 2 → a.dataLen / 2 ≤ 124 →
      motive a (.wregs a.unit a.addr (UInt16.ofNat (a.dataLen / 2)) a.data))
    (sid : a.fc = 17 → motive a (.sid a.unit))
    (rw : a.fc = 23 → 1 ≤ a.qty.toNat → a.qty.toNat ≤ 124 → a.dataLen % 2 = 0 → 1 ≤ a.dataLen / 2 →
      a.dataLen / 2 ≤ 124 → motive a (.rw a.unit a.addr a.qty a.waddr (UInt16.ofNat (a.dataLen / 2)) a.data)) :
    motive a r := by
  unfold newReq at h
  split at h <;> rename_i hfc <;> (try dsimp only at h) <;> (try split_ifs at h) <;> cases h
  · have ⟨h1, h2⟩ := u16_pos_le a.qty 2000 (by decide) ‹_›
    exact hfc ▸ bits (.inl hfc) h1 h2
  · have ⟨h1, h2⟩ := u16_pos_le a.qty 2000 (by decide) ‹_›
    exact hfc ▸ bits (.inr hfc) h1 h2
  · have ⟨h1, h2⟩ := u16_pos_le a.qty 125 (by decide) ‹_›
    exact hfc ▸ regs (.inl hfc) h1 h2
  · have ⟨h1, h2⟩ := u16_pos_le a.qty 125 (by decide) ‹_›
    exact hfc ▸ regs (.inr hfc) h1 h2
  · exact wcoil hfc
  · exact wreg hfc
  · rename_i hq
    simp only [Bool.or_eq_true, beq_iff_eq, decide_eq_true_eq, not_or] at hq
    exact wcoils hfc (by omega) (by omega)
  · rename_i hev hq
    simp only [Bool.or_eq_true, beq_iff_eq, decide_eq_true_eq, not_or, bne_iff_ne, ne_eq, Decidable.not_not] at hq hev
    exact wregs hfc hev (by omega) (by omega)
  · exact sid hfc
  · rename_i hrq hev hq
    have ⟨h1, h2⟩ := u16_pos_le a.qty 124 (by decide) hrq
    simp only [Bool.or_eq_true, beq_iff_eq, decide_eq_true_eq, not_or, bne_iff_ne, ne_eq, Decidable.not_not] at hq hev
    exact rw hfc h1 h2 hev (by omega) (by omega)

theorem holds_of_pdu {f : Framing} {tid : UInt16} {a : NewArgs} {r : Req} (hleg : Spec.legal a = true)
    (hp : r.pdu = a.unit :: Spec.pdu a) (hl : r.pdu.length ≤ 254) : Holds f tid a r :=
  ⟨hleg, frame_eq f tid a r hp (by omega), frame_len f tid r hl⟩

/-- the full statement outside the two known-finding regions -/
theorem C01_partial (f : Framing) (tid : UInt16) (a : NewArgs) (r : Req) (hwf : WF a)
    (h : newReq a = .ok r) (hkf : Driver.kfC01 a = none) : Holds f tid a r := by
  unfold WF at hwf
  refine newReq_cases h ?_ ?_ ?_ ?_ ?_ ?_ ?_ ?_
  · intro hfc h1 h2
    exact holds_of_pdu (by rcases hfc with e | e <;> simp [Spec.legal, e, h1, h2])
      (read_case _ (by rcases hfc with e | e <;> simp [e]) a rfl) (by simp [Req.pdu, put16])
  · intro hfc h1 h2
    exact holds_of_pdu (by rcases hfc with e | e <;> simp [Spec.legal, e, h1, h2])
      (read_case _ (by rcases hfc with e | e <;> simp [e]) a rfl) (by simp [Req.pdu, put16])
  · intro hfc
    refine holds_of_pdu (by simp [Spec.legal, hfc]) ?_ (by simp [Req.pdu, put16])
    unfold Req.pdu Spec.pdu
    cases a.state <;> simp [hfc, put16_eq_be, Spec.be]
  · intro hfc
    exact holds_of_pdu (by simp [Spec.legal, hfc]) (by simp [Req.pdu, Spec.pdu, hfc, put16_eq_be]) (by simp [Req.pdu, put16])
  · intro hfc h1 h2
    have hlen : (coilsToBytes a.coils).length = (a.coils.length + 7) / 8 := by simp [coilsToBytes]
    refine holds_of_pdu (by simp [Spec.legal, hfc, h1, h2]) ?_ (by simp [Req.pdu, put16, hlen]; omega)
    unfold Req.pdu Spec.pdu
    simp only [hfc]
    rw [put16_ofNat _ (by omega), hlen, coilsToBytes_eq_pack, put16_eq_be]
    simp
  · intro hfc hev h1 h2
    have hkf' : a.dataLen / 2 ≠ 124 := fun h124 => by simp [Driver.kfC01, hfc, hev, h124] at hkf
    refine holds_of_pdu (by simp [Spec.legal, hfc, hev]; omega) ?_ (by simp [Req.pdu, put16]; omega)
    unfold Req.pdu Spec.pdu
    simp only [hfc]
    rw [put16_ofNat _ (by omega), put16_eq_be, hwf]
    simp
  · intro hfc
    exact holds_of_pdu (by simp [Spec.legal, hfc]) (by simp [Req.pdu, Spec.pdu, hfc]) (by simp [Req.pdu])
  · intro hfc h1 h2 hev h3 h4
    have hkf' : a.dataLen / 2 ≤ 121 := Nat.le_of_not_lt fun hgt => by
      have : 122 ≤ a.dataLen / 2 := hgt
      simp [Driver.kfC01, hfc, hev, h1, h2, this, h4] at hkf
    refine holds_of_pdu (by simp [Spec.legal, hfc, hev, h1]; omega) ?_ (by simp [Req.pdu, put16]; omega)
    unfold Req.pdu Spec.pdu
    simp only [hfc]
    rw [put16_ofNat _ (by omega), put16_eq_be, put16_eq_be, put16_eq_be, hwf]
    simp

/-- KF-C01-fc16-124: 124 registers are accepted (a 261-byte TCP frame); the full statement is false -/
theorem kf_fc16_124_witness :
    ∃ a r, WF a ∧ newReq a = .ok r ∧ Driver.kfC01 a = some "KF-C01-fc16-124" ∧
      Spec.legal a = false ∧ (r.bytes .tcp 1).length = 261 :=
  ⟨{ fc := 16, data := List.replicate 248 0, dataLen := 248 }, .wregs 0 0 124 (List.replicate 248 0),
    by decide +kernel, by decide +kernel, by decide +kernel, by decide +kernel, by decide +kernel⟩

/-- KF-C01-fc23-w122-124 -/
theorem kf_fc23_w122_witness :
    ∃ a r, WF a ∧ newReq a = .ok r ∧ Driver.kfC01 a = some "KF-C01-fc23-w122-124" ∧
      Spec.legal a = false ∧ (r.bytes .tcp 1).length = 261 :=
  ⟨{ fc := 23, qty := 1, data := List.replicate 244 0, dataLen := 244 }, .rw 0 0 1 0 122 (List.replicate 244 0),
    by decide +kernel, by decide +kernel, by decide +kernel, by decide +kernel, by decide +kernel⟩

theorem C01_full_false : ¬ C01_full := by
  intro h
  obtain ⟨a, r, hwf, hn, _, hl, _⟩ := kf_fc16_124_witness
  have := (h .tcp 1 a r hwf hn).1
  rw [hl] at this
  exact absurd this (by decide)

/-- corollary: coil `i` of a write-multiple-coils request is bit `i % 8` of payload byte `i / 8` -/
theorem coil_layout (cs : List Bool) (i : Nat) (h : i < cs.length) :
    ((coilsToBytes cs).getD (i / 8) 0).toNat.testBit (i % 8) = cs.getD i false :=
  coilsToBytes_bit cs i h

/-- corollary: the MBAP length field equals the number of bytes that follow it -/
theorem length_field (tid : UInt16) (r : Req) (hl : r.pdu.length < 65536) :
    ∃ hi lo rest, r.bytesTCP tid = put16 tid ++ [0, 0] ++ [hi, lo] ++ rest ∧
      hi.toNat * 256 + lo.toNat = rest.length := by
  refine ⟨UInt8.ofNat (r.pdu.length / 256), UInt8.ofNat (r.pdu.length % 256), r.pdu, ?_, ?_⟩
  · unfold Req.bytesTCP
    rw [mbap_eq tid _ hl]
    simp [put16_eq_be, Spec.be]
  · simp [UInt8.toNat_ofNat']
    omega

/-- non-vacuity: a legal, non-trivial request meets every hypothesis -/
example : WF { fc := 15, unit := 17, addr := 19, coils := [true, false, true, true, false, false, true, true, true, false] } ∧
    Driver.kfC01 { fc := 15, unit := 17, addr := 19, coils := [true, false, true, true, false, false, true, true, true, false] } = none ∧
    (newReq { fc := 15, unit := 17, addr := 19, coils := [true, false, true, true, false, false, true, true, true, false] }).isOk = true := by
  decide

end Modbus.Properties.C01
