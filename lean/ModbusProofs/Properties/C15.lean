import ModbusProofs.Properties.C09
import ModbusProofs.Lemmas.Assembler
import ModbusProofs.Properties.C18
/-
  C15 — The TCP server answers each request once and in order, whatever the segmentation.

  Model: `receiveRead` / `asmLoop` (Modbus/Model/Assembler.lean) = ModbusTCPAssembler.ReceiveRead after
  the repair 34186ce; the connection loop calls it after every non-empty read and writes what it returns
  (`runReads`). A `Delimited` frame is one the classifier accepts (or reports as an unsupported function)
  with expected length = its own length - by C18 every encodable request other than FC17 is one.
  Theorems, for every handler that does not panic and EVERY way of cutting the stream into reads:
    * `segmentation_independent`: as long as the connection is not closed (no "not Modbus" verdict, no
      handler panic), the concatenation of everything the connection sends and the bytes it keeps buffered
      are the same as if the whole stream had arrived in a single read; once it is closed nothing is
      claimed about what was sent before;
    * `answered_once_in_order`: for a stream of delimited frames followed by the beginning of a further
      frame, what is sent is exactly the frames' replies, in order, each once; the buffer afterwards is
      exactly the unfinished frame (empty when the stream ends on a frame boundary) - so nothing is sent
      for a request before it is complete (apply the theorem to the reads delivered so far) and no
      left-over bytes reach the next request.
  Known finding: the FC17 request is not delimited (KF-C18-fc17, test-pinned): it is answered with a
  "not Modbus" error and the connection is closed.
-/
namespace Modbus.Properties.C15
open Modbus.Model Modbus.Lemmas

/-- the connection loop: everything sent so far and the reassembly buffer; `none` once the connection was closed
or the handler panicked -/
def runReads (h : Handler) : List Bytes → Bytes → Bytes → Option (Bytes × Bytes)
  | [], buf, out => some (out, buf)
  | c :: rest, buf, out =>
    let o := receiveRead h buf c
    if o.close || o.panicked then none else runReads h rest o.buf (out ++ o.reply)

/-- the connection loop of the model (`connLoop`) sends exactly what `runReads` accumulates -/
theorem runReads_connLoop (h : Handler) : ∀ (cs : List Bytes) (buf out r b : Bytes),
    runReads h cs buf out = some (r, b) →
      r = out ++ ((connLoop h cs buf).map (·.reply)).flatten ∧ ∀ o ∈ connLoop h cs buf, o.close = false ∧ o.panicked = false := by
  intro cs
  induction cs with
  | nil => intro buf out r b h; simp [runReads] at h; simp [connLoop, h.1]
  | cons c rest ih =>
    intro buf out r b hrun
    rw [runReads] at hrun
    rw [connLoop]
    split at hrun
    · cases hrun
    · rename_i hc
      obtain ⟨h1, h2⟩ := ih _ _ _ _ hrun
      rw [if_neg hc]
      exact ⟨by simp [h1], List.forall_mem_cons.2 ⟨by simpa using hc, h2⟩⟩

/-- a buffer on which the frame loop makes no progress (what `ReceiveRead` leaves behind; initially empty) -/
def AtRest (h : Handler) (buf : Bytes) : Prop :=
  ∀ F, buf.length < F → asmLoop h F buf [] = { reply := [], close := false, buf := buf }

/-- nothing pending: a stream that ends on a frame boundary -/
theorem pending_nil : Pending [] := Or.inl (by simp)

theorem atRest_of_pending (h : Handler) {p : Bytes} (hp : Pending p) : AtRest h p :=
  fun _ hF => by rw [asmLoop_eq_asm h [] hF, asm_pending h [] hp]

theorem atRest_nil (h : Handler) : AtRest h [] := atRest_of_pending h pending_nil

theorem atRest_result (h : Handler) (f : Nat) (a : Bytes) (hf : a.length < f)
    (hc : (asmLoop h f a []).close = false) (hp : (asmLoop h f a []).panicked = false) :
    AtRest h (asmLoop h f a []).buf := by
  rw [asmLoop_eq_asm h [] hf] at hc hp ⊢
  exact atRest_of_pending h (asm_open_pending h a [] (by simp [Stopped, hc, hp]))

/-- the connection loop, whatever the cutting into reads, is the frame loop on the whole stream -/
theorem runReads_eq (h : Handler) : ∀ (cs : List Bytes) (buf out : Bytes), AtRest h buf →
    runReads h cs buf out =
      if (asm h (buf ++ cs.flatten) out).close || (asm h (buf ++ cs.flatten) out).panicked then none
      else some ((asm h (buf ++ cs.flatten) out).reply, (asm h (buf ++ cs.flatten) out).buf) := by
  intro cs
  induction cs with
  | nil =>
    intro buf out hb
    have hb' : asm h buf [] = _ := hb _ (Nat.lt_succ_self _)
    rw [List.flatten_nil, List.append_nil, asm_out, hb']
    simp [runReads]
  | cons c rest ih =>
    intro buf out hb
    rw [runReads, List.flatten_cons, ← List.append_assoc, receiveRead_eq]
    have hout := asm_out h (buf ++ c) out
    rcases asm_append h (buf ++ c) rest.flatten out with ⟨hs, hs'⟩ | ⟨ho, he⟩
    · rw [hout] at hs
      rw [if_pos ((stopped_iff _).1 hs), if_pos ((stopped_iff _).1 hs')]
    · rw [hout] at ho he
      have ho' : ¬ Stopped (asm h (buf ++ c) []) := ho
      rw [he, if_neg (mt (stopped_iff _).2 ho'), ih _ _ (atRest_of_pending h (asm_open_pending h _ _ ho'))]

/-- **segmentation independence**: however the stream is cut into reads, as long as the connection stays open the
bytes sent and the bytes left in the buffer are those of a single read of the whole stream -/
theorem segmentation_independent (h : Handler) (cs : List Bytes) (r b : Bytes)
    (hrun : runReads h cs [] [] = some (r, b)) :
    receiveRead h [] cs.flatten = { reply := r, close := false, buf := b } := by
  rw [runReads_eq h cs [] [] (atRest_nil h)] at hrun
  show asm h ([] ++ cs.flatten) [] = _
  split at hrun
  · cases hrun
  · rename_i hc
    cases hrun
    exact eq_of_not_stopped (mt (stopped_iff _).1 hc)

/-- if the single read of the whole stream leaves the connection open, so does every segmentation of it -/
theorem runReads_defined (h : Handler) : ∀ (cs : List Bytes) (buf out : Bytes), AtRest h buf →
    (∀ F, (buf ++ cs.flatten).length < F → ¬ Stopped (asmLoop h F (buf ++ cs.flatten) out)) →
    ∃ r b, runReads h cs buf out = some (r, b) := by
  intro cs buf out hb hopen
  have : ¬ Stopped (asm h (buf ++ cs.flatten) out) := hopen _ (Nat.lt_succ_self _)
  rw [runReads_eq h cs buf out hb, if_neg (mt (stopped_iff _).2 this)]
  exact ⟨_, _, rfl⟩

theorem runReads_of_asm (h : Handler) {cs : List Bytes} {s r b : Bytes} (hcs : cs.flatten = s)
    (ha : asm h s [] = { reply := r, close := false, buf := b }) : runReads h cs [] [] = some (r, b) := by
  rw [runReads_eq h cs [] [] (atRest_nil h), List.nil_append, hcs, ha]
  rfl

/-- **exactly once, in order, nothing early, nothing left over**: the stream consists of delimited frames followed
by the beginning `p` of a further frame (or nothing); the handler answers each frame. Then for EVERY cutting of the
stream into reads the connection sends exactly the frames' replies in order and keeps exactly `p` buffered. -/
theorem answered_once_in_order (h : Handler) (fs : List Bytes) (p : Bytes) (cs : List Bytes)
    (hd : ∀ f ∈ fs, Delimited f) (hp : Pending p) (hr : ∀ f ∈ fs, (frameReply h f).isSome)
    (hcs : cs.flatten = fs.flatten ++ p) :
    runReads h cs [] [] = some ((fs.map fun f => (frameReply h f).getD []).flatten, p) := by
  refine runReads_of_asm h hcs ?_
  have := asm_frames h id (fun f => (frameReply h f).getD []) fs p [] fun f hf => ⟨hd f hf, by
    obtain ⟨r, hfr⟩ := Option.isSome_iff_exists.1 (hr f hf)
    rw [id, hfr]; rfl⟩
  rwa [List.map_id, asm_pending h _ hp] at this

/-- every encoded request of a supported function other than FC17 is a delimited frame (from C18) -/
theorem encoded_request_delimited (tid : UInt16) (r : Req) (hl : 3 ≤ r.pdu.length ∧ r.pdu.length < 65536)
    (hfc : supportedFunctionCodes.contains r.fc = true) : Delimited (r.bytesTCP tid) :=
  ⟨none, C18.enc_looksLike tid r hl hfc [], by simp, by simp⟩

/-- a proper prefix of a delimited frame is pending: nothing is answered before the frame is complete -/
theorem prefix_pending (f : Bytes) (hd : Delimited f) (k : Nat) (hk : k < f.length) : Pending (f.take k) := by
  by_cases h8 : k < 8
  · exact .inl (by simp; omega)
  · obtain ⟨e, hl, hts, hnt⟩ := hd
    exact .inr ⟨f.length, e, (looksLike_take f [] [] false k (by omega) (by omega)).trans hl, hts, hnt, by simp; omega⟩

/-- non-vacuity: an encoded FC3 request is a delimited frame -/
example : Delimited ((Req.read 3 1 107 3).bytesTCP 0x8180) :=
  encoded_request_delimited _ _ (by decide) (by decide)

/-- any two segmentations of the same byte stream (delimited requests followed by a pending rest) produce the same
reply stream and leave the same rest in the buffer -/
theorem any_two_segmentations_agree (h : Handler) (fs : List Bytes) (p : Bytes) (cs₁ cs₂ : List Bytes)
    (hd : ∀ f ∈ fs, Delimited f) (hp : Pending p) (hr : ∀ f ∈ fs, (frameReply h f).isSome)
    (h₁ : cs₁.flatten = fs.flatten ++ p) (h₂ : cs₂.flatten = fs.flatten ++ p) :
    runReads h cs₁ [] [] = runReads h cs₂ [] [] := by
  rw [answered_once_in_order h fs p cs₁ hd hp hr h₁, answered_once_in_order h fs p cs₂ hd hp hr h₂]

/-- one exchange of a pipelined conversation: transaction id, constructor arguments, the request built from them, and
the response the handler gives -/
structure Exch where
  tid : UInt16
  a : NewArgs
  r : Req
  resp : Resp

/-- the request is a legal one built by the library (outside the FC1/FC2 parser finding), with a supported function
code, and the handler answers it with `resp` -/
def Exch.Good (h : Handler) (x : Exch) : Prop :=
  C01.WF x.a ∧ newReq x.a = .ok x.r ∧ Spec.legal x.a = true ∧ Driver.kfC09 x.a = none ∧
  (3 ≤ x.r.pdu.length ∧ x.r.pdu.length < 65536) ∧ supportedFunctionCodes.contains x.r.fc = true ∧
  h x.tid x.r = .resp x.resp

theorem frameReply_good (h : Handler) (x : Exch) (hx : x.Good h) :
    Delimited (x.r.bytesTCP x.tid) ∧ frameReply h (x.r.bytesTCP x.tid) = some (x.resp.bytesTCP x.tid) := by
  obtain ⟨hwf, hnew, hleg, hkf, hl, hfc, hh⟩ := hx
  refine ⟨encoded_request_delimited x.tid x.r hl hfc, ?_⟩
  rw [frameReply, C18.enc_looksLike x.tid x.r hl hfc []]
  simp only [handleFrame, (C09.C09_roundtrip_partial x.tid x.a x.r hwf hnew hleg hkf).2.1 [], hh]

/-- **pipelined requests, any segmentation**: any number of legal library-built requests written back to back, cut
into TCP reads in any way, possibly followed by a pending rest `p`: the server writes exactly the handler's responses,
each under its request's transaction id, in request order, and keeps `p` -/
theorem pipelined_requests_served (h : Handler) (xs : List Exch) (hx : ∀ x ∈ xs, x.Good h) (p : Bytes) (hp : Pending p)
    (cs : List Bytes) (hcs : cs.flatten = (xs.map fun x => x.r.bytesTCP x.tid).flatten ++ p) :
    runReads h cs [] [] = some ((xs.map fun x => x.resp.bytesTCP x.tid).flatten, p) := by
  refine runReads_of_asm h hcs ?_
  rw [asm_frames h _ _ xs p [] fun x hxm => frameReply_good h x (hx x hxm), asm_pending h _ hp]
  rfl

/-- non-vacuity: a read of one holding register, answered by a constant handler -/
example : (Exch.mk 7 { fc := 3, qty := 1 } (.read 3 0 0 1) (.regs 3 0 2 [0, 0])).Good (fun _ _ => .resp (.regs 3 0 2 [0, 0])) :=
  ⟨by decide, by decide, by decide, by decide, by decide, by decide, rfl⟩

end Modbus.Properties.C15
