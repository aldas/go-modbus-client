import ModbusProofs.Lemmas.Assembler
import ModbusProofs.Properties.C09
import ModbusProofs.Properties.C18
/-
  C16 — Every server reply is a well-formed ADU addressed to the request it answers.

  For every complete frame with a valid MBAP header (the classifier's conditions) the reply of the server is:
    * unsupported function code        → the 9-byte exception (tid, unit, fc|0x80, code 01)    (`reply_unsupported`)
    * refused by the request parser    → the 9-byte exception (tid, unit, fc|0x80, code 03)    (`server_reply`, first case)
      - out-of-range quantities / coil values / byte counts and truncated bodies are such frames (C09 `accepted_tcp`,
        C10: the parser never panics);
    * accepted and handled             → the handler's response encoded with the REQUEST's transaction id
    * accepted, handler returns an error → the 9-byte exception (tid, unit, fc|0x80, handler's code or 04)
  where tid, unit and fc are bytes 0-1, 6 and 7 of the request frame. (Before the repairs dd48c40 / 5ac6ba7 a
  truncated body panicked and handler errors were answered with tid 0, unit 0, function 0.)
  A panicking handler yields no reply; in the Go server the connection goroutine's `recover` closes that one
  connection - exercised end to end by the `srv` operations of C17; the model marks the connection as ended.
  Known finding: the FC17 request is not delimited by the classifier (KF-C18-fc17).
-/
namespace Modbus.Properties.C16
open Modbus.Model Modbus.Lemmas

/-- the layout of every exception reply: 9 bytes, protocol id 0, length 3 -/
theorem exception_layout (tid : UInt16) (unit fc code : UInt8) :
    excBytesTCP tid unit fc code = [hi8 tid, lo8 tid, 0, 0, hi8 3, lo8 3, unit, fc + 128, code] ∧
    (excBytesTCP tid unit fc code).length = 9 := ⟨rfl, rfl⟩

theorem be16_toNat (a b : UInt8) : (be16 a b).toNat = a.toNat * 256 + b.toNat :=
  u16_ofNat_toNat _ (by have := a.toNat_lt; have := b.toNat_lt; omega)

theorem hi8_be16 (a b : UInt8) : hi8 (be16 a b) = a := by
  have := b.toNat_lt
  rw [hi8, be16_toNat, show (a.toNat * 256 + b.toNat) / 256 = a.toNat by omega, UInt8.ofNat_toNat]

theorem lo8_be16 (a b : UInt8) : lo8 (be16 a b) = b := by
  have := b.toNat_lt
  rw [lo8, be16_toNat, show (a.toNat * 256 + b.toNat) % 256 = b.toNat by omega, UInt8.ofNat_toNat]

/-- the exception reply starts with the first two bytes of the request (its transaction id) -/
theorem exception_tid (v : Bytes) (unit fc code : UInt8) :
    (excBytesTCP (be16 (v.getD 0 0) (v.getD 1 0)) unit fc code).take 2 = [v.getD 0 0, v.getD 1 0] := by
  rw [(exception_layout _ _ _ _).1, hi8_be16, lo8_be16]; rfl

/-- what the server answers to one complete frame with a supported function code -/
inductive ReplyShape (h : Handler) (v : Bytes) : Option Bytes → Prop
  /-- the request parser refuses the frame: illegal data value, addressed to the request -/
  | refused : ReplyShape h v (some (excBytesTCP (be16 (v.getD 0 0) (v.getD 1 0)) (v.getD 6 0) (v.getD 7 0) 3))
  /-- the handler answers: its response, encoded with the request's transaction id -/
  | handled (req : Req) (r : Resp) : h (be16 (v.getD 0 0) (v.getD 1 0)) req = .resp r → req.unit = v.getD 6 0 → req.fc = v.getD 7 0 →
      ReplyShape h v (some (r.bytesTCP (be16 (v.getD 0 0) (v.getD 1 0))))
  /-- the handler returns a typed error: its code, addressed to the request -/
  | typed (req : Req) (c : UInt8) : h (be16 (v.getD 0 0) (v.getD 1 0)) req = .typedErr c →
      ReplyShape h v (some (excBytesTCP (be16 (v.getD 0 0) (v.getD 1 0)) (v.getD 6 0) (v.getD 7 0) c))
  /-- the handler returns any other error: server failure (04), addressed to the request -/
  | generic (req : Req) : h (be16 (v.getD 0 0) (v.getD 1 0)) req = .genericErr →
      ReplyShape h v (some (excBytesTCP (be16 (v.getD 0 0) (v.getD 1 0)) (v.getD 6 0) (v.getD 7 0) 4))
  /-- the handler panics: no reply; the connection ends -/
  | panicked (req : Req) : h (be16 (v.getD 0 0) (v.getD 1 0)) req = .panics → ReplyShape h v none

theorem parse_cases (v sp : Bytes) (h8 : 8 ≤ v.length) (hm : MBAPrest v)
    (hs : supportedFunctionCodes.contains (v.getD 7 0) = true) :
    parseTCPRequest ⟨v, sp⟩ = .err (.tcp 3 (be16 (v.getD 0 0) (v.getD 1 0)) (v.getD 6 0) (v.getD 7 0)) ∨
    ∃ req, parseTCPRequest ⟨v, sp⟩ = .ok (be16 (v.getD 0 0) (v.getD 1 0), req) ∧
      req.unit = v.getD 6 0 ∧ req.fc = v.getD 7 0 := by
  have hr := run_parseTCPRequest v sp sp
  cases hp : parseTCPRequest ⟨v, sp⟩ with
  | panic => exact absurd hp hr.ne_panic
  | err e => exact .inl (congrArg _ (hr.of_err hp h8 ⟨by omega, hm⟩ rfl (List.contains_iff_mem.1 hs)))
  | ok x =>
    obtain ⟨h1, h2, h3, h4, -⟩ := hr.okSat.elim hp
    exact .inr ⟨x.2, by rw [← h1], h2, h3.trans h4.symm⟩

/-- **server reply** to a complete frame with a valid header and a supported function code, for any handler and
whatever follows the frame in the reassembly buffer -/
theorem server_reply (h : Handler) (v sp : Bytes) (h8 : 8 ≤ v.length) (hm : MBAPrest v)
    (hs : supportedFunctionCodes.contains (v.getD 7 0) = true) : ReplyShape h v (handleFrame h v sp) := by
  rcases parse_cases v sp h8 hm hs with hp | ⟨req, hp, hu, hf⟩ <;> simp only [handleFrame, hp]
  · exact .refused
  · rw [hu, hf]
    cases hh : h _ req with
    | resp r => exact .handled req r hh hu hf
    | typedErr c => exact .typed req c hh
    | genericErr => exact .generic req hh
    | panics => exact .panicked req hh

/-- **unsupported function codes** (1..127 and beyond, not zero): the frame is consumed and answered with the
illegal-function exception carrying the request's transaction id, unit id and function code -/
theorem reply_unsupported (h : Handler) (f : Bytes) (h8 : 8 ≤ f.length)
    (hp : f.getD 2 0 = 0 ∧ f.getD 3 0 = 0) (hlen : ¬ be16 (f.getD 4 0) (f.getD 5 0) < 3)
    (hself : f.length = (be16 (f.getD 4 0) (f.getD 5 0)).toNat + 6)
    (hfc0 : f.getD 7 0 ≠ 0) (hun : supportedFunctionCodes.contains (f.getD 7 0) = false) :
    frameReply h f = some (excBytesTCP (be16 (f.getD 0 0) (f.getD 1 0)) (f.getD 6 0) (f.getD 7 0) 1) := by
  unfold frameReply
  rw [C18.unsupported f [] h8 hp hlen hfc0 hun]
  rfl

/-- out-of-range quantities: a frame whose FC3 quantity field is 0 or above 125 is answered with code 03
(it is never handed to the handler) - spelled out for one function; `C09.accepted_tcp` gives the general form -/
theorem fc3_quantity_code3 (h : Handler) (v sp : Bytes) (h8 : 8 ≤ v.length) (hm : MBAPrest v) (hfc : v.getD 7 0 = 3)
    (hq : ¬ (be16 (v.getD 10 0) (v.getD 11 0) ≥ 1 ∧ be16 (v.getD 10 0) (v.getD 11 0) ≤ 125)) :
    handleFrame h v sp = some (excBytesTCP (be16 (v.getD 0 0) (v.getD 1 0)) (v.getD 6 0) 3 3) := by
  rcases parse_cases v sp h8 hm (by rw [hfc]; decide) with hp | ⟨req, hp, -, -⟩
  · simp only [handleFrame, hp, hfc]
    rfl
  · rw [parseTCPRequest_eq h8, hfc] at hp
    exact (C09.fc3_quantity_refused v sp _ hq hp).elim

/-- non-vacuity: a header-consistent FC3 frame cut after the address (the truncated body of the repairs named above) -/
example : handleFrame (fun _ _ => .genericErr) [0x12, 0x34, 0, 0, 0, 4, 7, 3, 0, 1] [0xAA, 0xBB] =
    some (excBytesTCP 0x1234 7 3 3) := by decide

theorem resp_bytesTCP_tid (r : Resp) (tid : UInt16) : (r.bytesTCP tid).take 2 = [hi8 tid, lo8 tid] := rfl

/-- whatever the server answers to a complete frame - response or exception, any handler - starts with the two
transaction-id bytes of that frame -/
theorem reply_echoes_tid (h : Handler) (v sp : Bytes) (h8 : 8 ≤ v.length) (hm : MBAPrest v)
    (hs : supportedFunctionCodes.contains (v.getD 7 0) = true) (out : Bytes)
    (ho : handleFrame h v sp = some out) : out.take 2 = [v.getD 0 0, v.getD 1 0] := by
  have hsh := server_reply h v sp h8 hm hs
  rw [ho] at hsh
  cases hsh with
  | handled => rw [resp_bytesTCP_tid, hi8_be16, lo8_be16]
  | _ => exact exception_tid v _ _ _

end Modbus.Properties.C16
