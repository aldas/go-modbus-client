import ModbusProofs.Lemmas.ClientLoop
import ModbusProofs.Lemmas.Response
/-
  C08 — A request call always terminates with a classified error on transport faults.

  The read loop of the model is a structural recursion over the transport script: every iteration
  consumes one read event; an exhausted script IS the stalling transport and ends in the timeout error.
  So every call terminates with an outcome (`readLoop` is a total function: no hang, no panic value
  exists in `LoopOut`), and:
    * every error outcome is one of the classified errors (`classified`);
    * after ANY harmless prefix of reads (data / timeouts that stay below the announced length, the frame
      limit and never look like an exception - in particular any proper prefix of a reply cut in any way):
        stall            → ClientError(timeout)                         (`stall`)
        I/O error        → ClientError(io)   [or the flush error]       (`io_error`)
        context cancel   → the context's error                          (`cancelled`)
        oversize         → ErrPacketTooLong  [or the flush error]       (`oversize`)
    * a rejected write → ClientError(write) [or the flush error]       (`write_rejected`)
    * success needs at least the announced number of bytes or a closed stream (`no_success_below_expected`);
    * the whole call (`doExchange`: write, read loop, reply parser) returns, for EVERY script, write outcome,
      flusher and hook setting, either a response or one of the classified errors - the model's `panic`
      outcome of the reply parsers (an index past the frame) is unreachable (`call_never_panics_and_is_classified`,
      composing the loop's classification with the parsers' safety theorems of C10).
  What the model cannot exhibit: real time. "Returns within a bounded time" is the total read timer of the
  Go code; the harness measures it (a 10 s watchdog per call turns a call that does not come back into the
  outcome HANG). Calls on an unconnected client or with a nil request return before the exchange
  (`doCall`, `refused_before_exchange`: the nil request is refused first; no write, no read, no hook).
  Known finding KF-C08-fc17-prefix: FC17 announces 8 (TCP) / 2 (RTU) bytes although its reply is longer, so a
  prefix of a reply can already satisfy the loop and - over TCP, where nothing compares the MBAP length
  with what arrived - be returned as a successful, truncated response.
-/
namespace Modbus.Properties.C08
open Modbus.Model Modbus.Lemmas

/-- reads that only deliver data or time out -/
def Harmless (k : ClientKind) (expected : Nat) (pre : List Ev) : Prop :=
  (∀ e ∈ pre, e = .timeout ∨ ∃ c, e = .data c) ∧ (evData pre).length < expected ∧
  (evData pre).length ≤ k.maxLen ∧ ∀ p q, p ++ q = evData pre → asProtocolError k p = none

theorem skip (k : ClientKind) (fl : Flusher) (expected : Nat) (pre tail : List Ev) (h : Harmless k expected pre) :
    ∃ log', readLoop k fl expected (pre ++ tail) [] [] = readLoop k fl expected tail (evData pre) log' :=
  readLoop_skip k fl expected tail pre [] [] h.1 h.2.1 h.2.2.1 h.2.2.2

/-- stall after any harmless prefix: the retryable client error (timeout) -/
theorem stall (k : ClientKind) (fl : Flusher) (expected : Nat) (pre : List Ev) (h : Harmless k expected pre) :
    (readLoop k fl expected pre [] []).1 = .err .timeout := by
  obtain ⟨log', hs⟩ := readLoop_stall k fl expected pre [] [] h.1 h.2.1 h.2.2.1 h.2.2.2
  rw [hs]

/-- I/O error after any harmless prefix -/
theorem io_error (k : ClientKind) (fl : Flusher) (expected : Nat) (pre : List Ev) (b : Bytes) (rest : List Ev)
    (h : Harmless k expected pre) :
    (readLoop k fl expected (pre ++ .ioerr b :: rest) [] []).1 = withFlush k fl (.err .io) := by
  obtain ⟨log', hs⟩ := skip k fl expected pre (.ioerr b :: rest) h
  obtain ⟨log'', h2⟩ := readLoop_ioerr k fl expected b rest (evData pre) log'
  rw [hs, h2]

/-- cancellation after any harmless prefix: the context's error -/
theorem cancelled (k : ClientKind) (fl : Flusher) (expected : Nat) (pre : List Ev) (rest : List Ev)
    (h : Harmless k expected pre) :
    (readLoop k fl expected (pre ++ .cancel :: rest) [] []).1 = .err .ctx := by
  obtain ⟨log', hs⟩ := skip k fl expected pre (.cancel :: rest) h
  obtain ⟨log'', h2⟩ := readLoop_cancel k fl expected rest log' h.2.2.1 h.2.1 (h.2.2.2 _ [] (List.append_nil _))
  rw [hs, h2]

/-- oversize: as soon as more bytes than a frame can hold have arrived the call ends with ErrPacketTooLong -/
theorem oversize (k : ClientKind) (fl : Flusher) (expected : Nat) (pre : List Ev) (c : Bytes) (rest : List Ev)
    (h : Harmless k expected pre) (hbig : (evData pre).length + c.length > k.maxLen) :
    (readLoop k fl expected (pre ++ .data c :: rest) [] []).1 = withFlush k fl (.err .tooLong) := by
  obtain ⟨log', hs⟩ := skip k fl expected pre (.data c :: rest) h
  obtain ⟨log'', h2⟩ := readLoop_oversize k fl expected c rest log' hbig
  rw [hs, h2]

/-- a rejected write -/
theorem write_rejected (k : ClientKind) (fl : Flusher) (hooks : Bool) (req : Bytes) (expected : Nat) (script : List Ev) :
    (doExchange k fl hooks req expected true script).1 = .err .write ∨
    (doExchange k fl hooks req expected true script).1 = .err .flush := by
  rw [doExchange_writeFails]
  dsimp only
  split
  · exact .inr rfl
  · exact .inl rfl

/-- every error of the loop is one of the property's classes: timeout, I/O, flush, too long, context, no bytes, or a typed exception -/
theorem classified (k : ClientKind) (fl : Flusher) (expected : Nat) (script : List Ev) (e : CErr) (log : List HookEv)
    (h : readLoop k fl expected script [] [] = (.err e, log)) :
    e = .timeout ∨ e = .io ∨ e = .flush ∨ e = .tooLong ∨ e = .ctx ∨ e = .noBytes ∨ ∃ x, e = .exc x :=
  readLoop_err_class h

/-- no success on fewer bytes than announced (unless the peer closed the stream, network clients only) -/
theorem no_success_below_expected (k : ClientKind) (fl : Flusher) (expected : Nat) (script : List Ev) (bs : Bytes)
    (log : List HookEv) (h : readLoop k fl expected script [] [] = (.frame bs, log)) :
    bs.length ≥ expected ∨ (k ≠ .serial ∧ ∃ b, Ev.eof b ∈ script) :=
  readLoop_frame_len h

/-- the error classes a call may return -/
def Classified (e : CErr) : Prop :=
  e = .timeout ∨ e = .io ∨ e = .write ∨ e = .flush ∨ e = .tooLong ∨ e = .ctx ∨ e = .noBytes ∨
  (∃ x, e = .exc x) ∨ ∃ x, e = .parse x

/-- the whole call - write, read loop, reply parser - for every transport script, write outcome, flusher and hook
setting: a response or a classified error; the parsers' `panic` outcome is unreachable, and so are the two errors
that are decided before the exchange starts (`notConnected`, `nilReq`) -/
theorem call_never_panics_and_is_classified (k : ClientKind) (fl : Flusher) (hooks : Bool) (req : Bytes)
    (expected : Nat) (writeFails : Bool) (script : List Ev) :
    (∃ r tid, (doExchange k fl hooks req expected writeFails script).1 = .ok r tid) ∨
    ∃ e, (doExchange k fl hooks req expected writeFails script).1 = .err e ∧ Classified e := by
  cases writeFails
  · rw [doExchange_read]
    dsimp only
    rcases hrl : readLoop k fl expected script [] [] with ⟨bs | e, log⟩
    · unfold replyOut
      cases k.framing <;> dsimp only
      · rcases hp : parseTCPResponse ⟨bs, []⟩ with ⟨tid, r⟩ | e | _
        · exact .inl ⟨r, some tid, rfl⟩
        · exact .inr ⟨.parse e, rfl, by simp [Classified]⟩
        · exact absurd hp (run_parseTCPResponse bs [] []).ne_panic
      · rcases hp : parseRTUResponseWithCRC ⟨bs, []⟩ with r | e | _
        · exact .inl ⟨r, none, rfl⟩
        · exact .inr ⟨.parse e, rfl, by simp [Classified]⟩
        · exact absurd hp (run_parseRTUResponseWithCRC bs [] []).ne_panic
    · refine .inr ⟨e, rfl, ?_⟩
      rcases readLoop_err_class hrl with h | h | h | h | h | h | h <;>
        simp [Classified, h]
  · rcases write_rejected k fl hooks req expected script with h | h
    · exact .inr ⟨_, h, by simp [Classified]⟩
    · exact .inr ⟨_, h, by simp [Classified]⟩

/-- both sides of the disjunction occur: a complete FC3 reply is a response, a stalled transport a timeout -/
example : (doExchange .tcp .none false [] 11 false [.data [0, 1, 0, 0, 0, 5, 1, 3, 2, 0xAB, 0xCD]]).1 =
    .ok (.regs 3 1 2 [0xAB, 0xCD]) (some 1) := by decide +kernel
example : (doExchange .tcp .none false [] 11 false []).1 = .err .timeout := by decide +kernel

/-- before the exchange: a nil request is refused - first, whether or not the client is connected - and then an
unconnected client; in both cases nothing is written, read or shown to a hook, whatever the transport would do -/
theorem refused_before_exchange (k : ClientKind) (fl : Flusher) (hooks connected w : Bool) (req : Bytes × Nat)
    (script : List Ev) :
    doCall k fl hooks connected none w script = (.err .nilReq, []) ∧
    doCall k fl hooks false (some req) w script = (.err .notConnected, []) ∧
    doCall k fl hooks true (some req) w script = doExchange k fl hooks req.1 req.2 w script := by
  simp [doCall]

/-- the whole call including the two refusals: a response or a classified error, never a panic -/
theorem doCall_classified (k : ClientKind) (fl : Flusher) (hooks connected w : Bool) (req : Option (Bytes × Nat))
    (script : List Ev) :
    (∃ r tid, (doCall k fl hooks connected req w script).1 = .ok r tid) ∨
    ∃ e, (doCall k fl hooks connected req w script).1 = .err e ∧
      (Classified e ∨ e = .nilReq ∨ e = .notConnected) := by
  unfold doCall
  cases req with
  | none => right; exact ⟨.nilReq, rfl, Or.inr (Or.inl rfl)⟩
  | some rq =>
    cases connected with
    | false => right; exact ⟨.notConnected, rfl, Or.inr (Or.inr rfl)⟩
    | true =>
      simp only [Bool.not_true, Bool.false_eq_true, if_false]
      rcases call_never_panics_and_is_classified k fl hooks rq.1 rq.2 w script with h | ⟨e, h1, h2⟩
      · exact Or.inl h
      · exact Or.inr ⟨e, h1, Or.inl h2⟩

/-- KF-C08-fc17-prefix: a stall after the first 12 bytes of a 15-byte FC17 reply is reported as success -/
theorem kf_fc17_witness :
    (doExchange .tcp .none false ((Req.sid 16).bytes .tcp 1) ((Req.sid 16).expLen .tcp) false
      [.data (((Resp.sid 16 0 [1, 2] (some [9, 9, 9])).bytes .tcp 1).take 12)]).1 =
      .ok (.sid 16 0 [1, 2] none) (some 1) := by decide +kernel

/-- non-vacuity of `Harmless`: the first 7 of the 11 bytes of an FC3 reply, cut after 3 bytes, with a timeout -/
example : Harmless .tcp 11 [.data [0, 1, 0], .timeout, .data [0, 0, 5, 1]] := by
  refine ⟨by simp, by decide, by decide, ?_⟩
  intro p q hpq
  rw [asProtocolError_tcp rfl, if_neg]
  rintro ⟨h9, -⟩
  have : p.length + q.length = 7 := by
    have := congrArg List.length hpq
    simpa [evData] using this
  omega

/-- a call made with an already cancelled context returns the context's error (after the write), whatever the
transport would deliver -/
theorem precancelled_returns_ctx (k : ClientKind) (fl : Flusher) (hooks : Bool) (req : Bytes) :
    (doExchangeCancelled k fl hooks req false).1 = .err .ctx := by
  simp [doExchangeCancelled]

end Modbus.Properties.C08
