import ModbusProofs.Lemmas.Crc
import ModbusProofs.Lemmas.Request
import ModbusProofs.Lemmas.Response
/-
  C03 — CRC-16 equals the Modbus CRC for every message and is enforced on RTU frames.
-/
namespace Modbus.Properties.C03
open Modbus.Model

/-- (1) For every byte string of every length the code's CRC16 is the bit-serial Modbus CRC. -/
theorem crc16_eq_spec (data : Bytes) : (crc16 data).toBitVec = Spec.crc data :=
  Lemmas.crcBV_eq_spec data

/-- check value of the CRC-16/MODBUS parameter set: "123456789" ↦ 0x4B37 -/
example : crc16 [0x31, 0x32, 0x33, 0x34, 0x35, 0x36, 0x37, 0x38, 0x39] = 0x4B37 := by decide +kernel

/-- (2) every RTU request the encoders emit ends with the CRC of the preceding bytes, low byte first -/
theorem request_rtu_trailer (r : Req) :
    r.bytesRTU = r.pdu ++ [lo8 (crc16 r.pdu), hi8 (crc16 r.pdu)] := rfl

/-- (2) every RTU response -/
theorem response_rtu_trailer (r : Resp) :
    r.bytesRTU = r.pdu ++ [lo8 (crc16 r.pdu), hi8 (crc16 r.pdu)] := rfl

/-- (2) every RTU exception frame -/
theorem exception_rtu_trailer (unit fc code : UInt8) :
    excBytesRTU unit fc code =
      [unit, fc + 128, code] ++ [lo8 (crc16 [unit, fc + 128, code]), hi8 (crc16 [unit, fc + 128, code])] := rfl

/-- the trailer check of the `…WithCRC` entry points accepts exactly the frames whose last two
bytes are the CRC (low byte first) of the rest -/
theorem crcMatches_iff (body : Bytes) (l h : UInt8) :
    crcMatches (body ++ [l, h]) = true ↔ (l = lo8 (crc16 body) ∧ h = hi8 (crc16 body)) :=
  Lemmas.crcMatches_iff body l h

/-- (3) `ParseRTURequestWithCRC` refuses with `ErrInvalidCRC` iff the trailer is not the CRC of the rest
(frames of at least 4 bytes; shorter ones are refused as too short) -/
theorem request_withCRC_badCRC_iff (body : Bytes) (l h : UInt8) (sp : Bytes) (hlen : 2 ≤ body.length) :
    parseRTURequestWithCRC ⟨body ++ [l, h], sp⟩ = .err .badCRC ↔
      ¬ (l = lo8 (crc16 body) ∧ h = hi8 (crc16 body)) :=
  Lemmas.crcGuard_badCRC_iff (fun hh => (Lemmas.run_parseRTURequest _ sp sp).of_err hh rfl) body l h hlen

theorem response_withCRC_badCRC_iff (body : Bytes) (l h : UInt8) (sp : Bytes) (hlen : 2 ≤ body.length) :
    parseRTUResponseWithCRC ⟨body ++ [l, h], sp⟩ = .err .badCRC ↔
      ¬ (l = lo8 (crc16 body) ∧ h = hi8 (crc16 body)) :=
  Lemmas.crcGuard_badCRC_iff (fun hh => (Lemmas.run_parseRTUResponse _ sp sp).of_err hh rfl) body l h hlen

/-- every frame an RTU encoder emits passes the trailer check (non-vacuity of the above, for all frames) -/
theorem emitted_frames_accepted (body : Bytes) : crcMatches (withCrc body) = true := by
  unfold withCrc crcTrailer
  exact (crcMatches_iff body _ _).2 ⟨rfl, rfl⟩

/-- (3) the third CRC-verifying entry point, `AsRTUErrorPacketWithCRC` (the recogniser both RTU clients use while they
read): five bytes are an exception reply if and only if the function byte carries the error bit AND the last two
bytes are the CRC of the first three, low byte first. With any other trailer - also the CRC with its two bytes
exchanged - the bytes are not an exception. -/
theorem exception_withCRC_iff (u f c l h : UInt8) (sp : Bytes) (e : PErr) :
    asRTUErrorPacketWithCRC ⟨[u, f, c, l, h], sp⟩ = .ok (some e) ↔
      (l = lo8 (crc16 [u, f, c]) ∧ h = hi8 (crc16 [u, f, c]) ∧ f &&& 128 ≠ 0 ∧ e = .excR u (f - 128) c) := by
  have hm : crcMatches [u, f, c, l, h] = true ↔ _ := crcMatches_iff [u, f, c] l h
  rw [Lemmas.asRTUErrorPacketWithCRC_eq]
  split
  · rename_i hc
    exact ⟨fun he => ⟨(hm.1 hc.2.1).1, (hm.1 hc.2.1).2, hc.2.2, by cases he; rfl⟩, fun he => by rw [he.2.2.2]; rfl⟩
  · rename_i hc
    exact ⟨nofun, fun he => absurd ⟨rfl, hm.2 ⟨he.1, he.2.1⟩, he.2.2.1⟩ hc⟩

/-- anything that is not five bytes long is not an exception reply for this recogniser -/
theorem exception_withCRC_length (s : Slice) (h : s.vis.length ≠ 5) : asRTUErrorPacketWithCRC s = .ok none := by
  unfold asRTUErrorPacketWithCRC
  simp [h]

example : asRTUErrorPacketWithCRC ⟨withCrc [0x0a, 0x83, 0x02], []⟩ = .ok (some (.excR 0x0a 3 2)) := by decide +kernel
/-- the same frame with the two CRC bytes exchanged -/
example : asRTUErrorPacketWithCRC ⟨[0x0a, 0x83, 0x02, 177, 51], []⟩ = .ok (some (.excR 0x0a 3 2)) ∧
    asRTUErrorPacketWithCRC ⟨[0x0a, 0x83, 0x02, 51, 177], []⟩ = .ok none := by decide +kernel

/-- **too short to carry a checksum**: fewer than four bytes (no bytes at all included) are refused by both
CRC-verifying parsers with an error - neither accepted nor answered with a panic -, whatever lies behind them in memory -/
theorem too_short_refused (v sp : Bytes) (h : v.length < 4) :
    parseRTURequestWithCRC ⟨v, sp⟩ = .err .plain ∧ parseRTUResponseWithCRC ⟨v, sp⟩ = .err .plain :=
  ⟨Lemmas.crcGuard_short h, Lemmas.crcGuard_short h⟩

/-- what has not exactly five bytes is no error of any kind (`nil`) to the CRC-verifying recogniser: four or fewer, six or
more (the statement of `exception_withCRC_length`; five bytes with a wrong trailer: `exception_withCRC_iff`) -/
theorem recogniser_other_lengths (v sp : Bytes) (h : v.length ≠ 5) :
    asRTUErrorPacketWithCRC ⟨v, sp⟩ = .ok none :=
  exception_withCRC_length ⟨v, sp⟩ h

example : parseRTUResponseWithCRC ⟨[], [0xEE, 0xEE]⟩ = .err .plain ∧ parseRTURequestWithCRC ⟨[7], []⟩ = .err .plain := by
  decide

end Modbus.Properties.C03
