import ModbusProofs.Lemmas.Registers
/-
  C04 — Typed register access returns the addressed wire bytes or an error, never junk.

  `Spec.access` (Modbus/Spec/Registers.lean): over natural-number addresses, an access whose
  registers all lie in the window [start, start+n) yields the decoding of exactly those registers'
  wire bytes under the selected byte/word order; any other access is an error.
  Theorem `C04`: for EVERY payload of n ≥ 1 registers, every content of the slice's spare capacity,
  every window position with start + n ≤ 65536 (including windows ending at address 65535), every
  accessor, every order and every requested address 0..65535, the model's accessor returns exactly
  that - in particular it never panics, never reads outside the payload and does not depend on the
  spare capacity. (Before the repair 03e4f05 the uint16 window arithmetic made this false.)
-/
namespace Modbus.Properties.C04
open Modbus.Model Modbus.Lemmas

/-- the specification's answer as a result -/
def specRes (o : Option Val) : PRes Val :=
  match o with
  | some v => .ok v
  | none => .err .plain

theorem testBit_lo (h l : UInt8) (b : Nat) (hb : b ≤ 7) : (h.toNat * 256 + l.toNat).testBit b = l.toNat.testBit b := by
  have := Nat.testBit_two_pow_mul_add h.toNat (i := 8) (b := l.toNat) l.toNat_lt b
  rwa [Nat.mul_comm, if_pos (by omega)] at this

theorem testBit_hi (h l : UInt8) (b : Nat) (hb : 8 ≤ b) : (h.toNat * 256 + l.toNat).testBit b = h.toNat.testBit (b - 8) := by
  have := Nat.testBit_two_pow_mul_add h.toNat (i := 8) (b := l.toNat) l.toNat_lt b
  rwa [Nat.mul_comm, if_neg (by omega)] at this

theorem beNat2 (a b : UInt8) : beNat [a, b] = a.toNat * 256 + b.toNat := by simp [beNat]

/-- one-register accessors (proved before `bind_wire`, of which it is all but an instance: Lean names the matcher of
`match Spec.wire … with` after the first declaration that contains one, and the statement hashes recorded in
OBLIGATIONS.json include that name) -/
theorem one_reg (r : Registers) (d sp : Bytes) (n : Nat) (wf : RegWF r d sp n) (addr : UInt16)
    (f : Bytes → PRes Val) (g : Bytes → Val) (hfg : ∀ a b, f [a, b] = .ok (g [a, b])) :
    (r.register addr).bind f =
      specRes (match Spec.wire d r.start.toNat addr.toNat 1 with | none => none | some w => some (g w)) := by
  rw [register_eq wf addr]
  cases hw : Spec.wire d r.start.toNat addr.toNat 1 with
  | none => rfl
  | some w =>
    match w, wire_len wf hw with
    | [a, b], _ => exact hfg a b

/-- `tr`: how the accessor rearranges the addressed wire bytes; `g`: what the specification decodes them to -/
theorem bind_wire {d : Bytes} {s a k : Nat} {fetch : PRes Bytes} {tr : Bytes → Bytes}
    (hfetch : fetch = (Spec.wire d s a k).elim (.err .plain) fun w => .ok (tr w)) {f : Bytes → PRes Val} {g : Bytes → Val}
    (hfg : ∀ w, f (tr w) = .ok (g w)) :
    fetch.bind f = specRes (match Spec.wire d s a k with | none => none | some w => some (g w)) := by
  rw [hfetch]
  cases Spec.wire d s a k with
  | none => rfl
  | some w => exact hfg w

theorem intOf_reorder (o : ByteOrder) (w : Bytes) : intOf o (reorder o w) = Spec.intVal o w := rfl

theorem two_reg (r : Registers) (d sp : Bytes) (n : Nat) (wf : RegWF r d sp n) (addr : UInt16) (o : ByteOrder)
    (f : Bytes → PRes Val) (g : Bytes → Val) (hfg : ∀ w, f (reorder o w) = .ok (g w)) :
    (r.doubleRegister addr o).bind f =
      specRes (match Spec.wire d r.start.toNat addr.toNat 2 with | none => none | some w => some (g w)) :=
  bind_wire (doubleRegister_eq wf addr o) hfg

theorem four_reg (r : Registers) (d sp : Bytes) (n : Nat) (wf : RegWF r d sp n) (addr : UInt16) (o : ByteOrder)
    (f : Bytes → PRes Val) (g : Bytes → Val) (hfg : ∀ w, f (reorder o w) = .ok (g w)) :
    (r.quadRegister addr o).bind f =
      specRes (match Spec.wire d r.start.toNat addr.toNat 4 with | none => none | some w => some (g w)) :=
  bind_wire (quadRegister_eq wf addr o) hfg

theorem ord_eq (r : Registers) (o : ByteOrder) : r.ord o = Spec.effOrder r.order o := rfl

theorem byte_sel (hi : Bool) (x y : UInt8) :
    (if hi then [x, y].getD 0 0 else [x, y].getD 1 0).toNat = if hi then beNat [x, y] / 256 else beNat [x, y] % 256 := by
  have := y.toNat_lt
  cases hi <;> simp only [beNat2, List.getD_cons_zero, List.getD_cons_succ, if_true, Bool.false_eq_true, if_false] <;> omega

/-- bits 8..15 of a register are in its first byte -/
theorem bit_sel (b x y : UInt8) :
    (if b > 7 then x else y).toNat.testBit (if b > 7 then b - 8 else b).toNat = (beNat [x, y]).testBit b.toNat := by
  have h7 : b > 7 ↔ 8 ≤ b.toNat := UInt8.lt_iff_toNat_lt (a := 7)
  rw [beNat2]
  by_cases h : b > 7
  · rw [if_pos h, if_pos h, testBit_hi x y _ (h7.1 h), UInt8.toNat_sub_of_le _ _ ((UInt8.le_iff_toNat_le (a := 8)).2 (h7.1 h))]
    rfl
  · rw [if_neg h, if_neg h, testBit_lo x y _ (Nat.not_lt.1 (mt h7.2 h))]

theorem access_eq_spec (r : Registers) (d sp : Bytes) (n : Nat) (wf : RegWF r d sp n) (a : Acc) (addr : UInt16) :
    (r.access a addr).1 = specRes (Spec.access r.order d r.start.toNat a addr.toNat) := by
  unfold Registers.access Spec.access
  dsimp only
  cases a with
  | bit b =>
    have h15 : b > 15 ↔ 15 < b.toNat := UInt8.lt_iff_toNat_lt (a := 15)
    simp only [Spec.need]
    by_cases hb : b > 15
    · rw [if_pos hb, if_neg (Nat.not_le.2 (h15.1 hb))]; rfl
    · rw [if_neg hb, if_pos (Nat.not_lt.1 (mt h15.2 hb))]
      exact one_reg r d sp n wf addr _ _ fun x y => by rw [Spec.decode, ← bit_sel]; rfl
  | byte hi | u8 hi | i8 hi =>
    exact one_reg r d sp n wf addr _ _ fun x y => by rw [byte_sel]; rfl
  | u16 | i16 | reg =>
    exact one_reg r d sp n wf addr _ _ fun _ _ => rfl
  -- for the multi-register accessors `Spec.decode` unfolds to the model's own reading of the reordered bytes
  -- (`intOf_reorder`, `ord_eq`)
  | u32 | u32o | i32 | i32o | f32 | f32o | dreg =>
    exact two_reg r d sp n wf addr _ _ _ fun _ => rfl
  | u64 | u64o | i64 | i64o | f64 | f64o | qreg =>
    exact four_reg r d sp n wf addr _ _ _ fun _ => rfl
  | str len | stro len o =>
    exact bind_wire (string_eq wf addr len _) fun _ => rfl

/-- the statement from the constructor on: every payload of n ≥ 1 registers, every spare content, every start
with start + n ≤ 65536, optional `WithByteOrder`, every accessor and address -/
theorem C04 (d sp : Bytes) (start : UInt16) (n : Nat) (hl : d.length = 2 * n) (hn : 1 ≤ n)
    (hf : start.toNat + n ≤ 65536) (order : ByteOrder) (a : Acc) (addr : UInt16) :
    ∃ r, newRegisters ⟨d, sp⟩ start = .ok r ∧
      (({ r with order := order } : Registers).access a addr).1 =
        specRes (Spec.access order d start.toNat a addr.toNat) :=
  ⟨_, newRegisters_eq d sp start hl hn, access_eq_spec { start := start, .. } d sp n ⟨rfl, hl, hn, rfl, hf⟩ a addr⟩

theorem specRes_ne_panic (o : Option Val) : specRes o ≠ .panic := by
  cases o <;> simp [specRes]

/-- a consequence spelled out: never a panic (that the result does not depend on the spare capacity is in `C04` itself:
its right-hand side does not mention `sp`) -/
theorem never_panics (d sp : Bytes) (start : UInt16) (n : Nat) (hl : d.length = 2 * n) (hn : 1 ≤ n)
    (hf : start.toNat + n ≤ 65536) (order : ByteOrder) (a : Acc) (addr : UInt16) (r : Registers)
    (hr : newRegisters ⟨d, sp⟩ start = .ok r) :
    (({ r with order := order } : Registers).access a addr).1 ≠ .panic := by
  obtain ⟨r', hr', h⟩ := C04 d sp start n hl hn hf order a addr
  rw [hr] at hr'; injection hr' with e; subst e
  rw [h]; exact specRes_ne_panic _

/-- non-vacuity: a window that ends at address 65535 (the case the unrepaired code refused entirely) -/
example : (Spec.access 9 [0x12, 0x34, 0xAB, 0xCD] 65534 .u16 65535) = some (.u 16 0xABCD) := by decide
example : ∃ r, newRegisters ⟨[0x12, 0x34, 0xAB, 0xCD], []⟩ 65534 = .ok r ∧
    (r.access .u16 65535).1 = .ok (.u 16 0xABCD) := ⟨_, rfl, by decide⟩

end Modbus.Properties.C04
