import ModbusProofs.Lemmas.Request
import ModbusProofs.Lemmas.Response
/-
  C10 — No parser panics or reads past its input, for any byte string.

  For every parse entry point `e` of the model and EVERY byte string `v` and EVERY content `sp`
  of the slice's spare capacity:   e ⟨v, sp⟩ = e ⟨v, []⟩   and   e ⟨v, sp⟩ ≠ panic.
  (`SpareSafe`, Lemmas/Run.lean; each theorem is read off the parser's contract `run_…` in Lemmas/Request.lean,
  Response.lean.) The model's slice operations follow Go: indexing panics beyond `len`, re-slicing is allowed
  up to `cap` and then exposes the spare bytes - so a missing length guard in the model would make these
  statements false.

  "When it returns an error the accompanying value is nil": in the model a result is
  `ok v | err e | panic`, an error carries no value by construction; on the Go side the
  harness checks it by reflection for every operation (marker VALUE-NONNIL).
  `LooksLikeModbusTCP` returns `(int, error)`; both may be set for unsupported function codes
  (documented behaviour; an `int` is not a partially filled packet).
-/
namespace Modbus.Properties.C10
open Modbus.Model Modbus.Lemmas

/-- `ParseMBAPHeader` -/
theorem header : SpareSafe parseMBAP := Run.spareSafe run_parseMBAP

/-- `LooksLikeModbusTCP(data, allowUnsupported)` for both flag values -/
theorem classifier (allow : Bool) : SpareSafe (fun s => looksLike s allow) := Run.spareSafe (run_looksLike allow)

/-- `AsTCPErrorPacket`, `AsRTUErrorPacket` -/
theorem exception_recognisers : SpareSafe asTCPErrorPacket ∧ SpareSafe asRTUErrorPacket :=
  ⟨Run.spareSafe run_asTCPErrorPacket, Run.spareSafe run_asRTUErrorPacket⟩

/-- the ten `Parse*RequestTCP` functions (any function code selects one of them or the default branch) -/
theorem request_parsers_tcp (fc : UInt8) : SpareSafe (parseReqTCPfc fc) := Run.spareSafe (run_parseReqTCPfc fc)

/-- the ten `Parse*RequestRTU` functions -/
theorem request_parsers_rtu (fc : UInt8) : SpareSafe (parseReqRTUfc fc) := Run.spareSafe (run_parseReqRTUfc fc)

/-- the ten `Parse*ResponseTCP` functions -/
theorem response_parsers_tcp (fc : UInt8) : SpareSafe (parseRespTCPfc fc) := Run.spareSafe (run_parseRespTCPfc fc)

/-- the ten `Parse*ResponseRTU` functions -/
theorem response_parsers_rtu (fc : UInt8) : SpareSafe (parseRespRTUfc fc) := Run.spareSafe (run_parseRespRTUfc fc)

/-- `ParseTCPRequest`, `ParseRTURequest`, `ParseRTURequestWithCRC` -/
theorem request_dispatchers :
    SpareSafe parseTCPRequest ∧ SpareSafe parseRTURequest ∧ SpareSafe parseRTURequestWithCRC :=
  ⟨Run.spareSafe run_parseTCPRequest, Run.spareSafe run_parseRTURequest, Run.spareSafe run_parseRTURequestWithCRC⟩

/-- `ParseTCPResponse`, `ParseRTUResponse`, `ParseRTUResponseWithCRC` -/
theorem response_dispatchers :
    SpareSafe parseTCPResponse ∧ SpareSafe parseRTUResponse ∧ SpareSafe parseRTUResponseWithCRC :=
  ⟨Run.spareSafe run_parseTCPResponse, Run.spareSafe run_parseRTUResponse, Run.spareSafe run_parseRTUResponseWithCRC⟩

/-- the statement unfolded once, for the request dispatcher the server uses: for all bytes, all spare contents -/
theorem server_dispatcher_unfolded (v sp : Bytes) :
    parseTCPRequest ⟨v, sp⟩ = parseTCPRequest ⟨v, []⟩ ∧ parseTCPRequest ⟨v, sp⟩ ≠ .panic :=
  Run.spareSafe run_parseTCPRequest v sp

/-- non-vacuity / sensitivity: the Go slice semantics of the model do expose spare bytes and do
panic when a guard is missing - an unguarded read of `data[10:12]` on a 9-byte slice -/
example : (Slice.mk [0,1,0,0,0,3,1,1,0x16] [0xAA, 0xBB, 0xCC]).rd16 (ε := PErr) 10 = .ok 0xBBCC := by decide
example : (Slice.mk [0,1,0,0,0,3,1,1,0x16] []).rd16 (ε := PErr) 10 = .panic := by decide
/-- …which the guarded parser refuses with the illegal-data-value exception for that request -/
example : parseTCPRequest ⟨[0,1,0,0,0,3,1,1,0x16], [0xAA, 0xBB, 0xCC]⟩ = .err (.tcp 3 1 1 1) := by decide

end Modbus.Properties.C10
