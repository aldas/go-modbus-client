import Modbus.Model.Assembler
import ModbusProofs.Properties.C09
import ModbusProofs.Lemmas.ClientLoop
import ModbusProofs.Properties.C02
/-
  C07 — Clients return the complete reply however the transport fragments it.

  Model: `readLoop` / `doExchange` (Modbus/Model/ClientLoop.lean) for the TCP client, the RTU-over-network
  client and the serial client; a script of read events is the transport; `Frag reply script` = the script
  delivers exactly `reply`, cut into non-empty reads in ANY way, with any number of timed-out reads in
  between, followed by anything.
  Proved for every fragmentation (induction over the script, no bound on the number of reads):
   * `complete_reply`: if the request's ExpectedResponseLength equals the reply's length, the call returns
     exactly the parsed reply;
   * `exception_reply_tcp` (TCP only): an exception frame is returned as the typed exception when the expected length is
     at least the exception frame's length;
   * `expLen_ok`: ExpectedResponseLength = length of every conforming reply, for the request types where
     that is true of the code: TCP FC1,2,3,4,6,15,16 and RTU FC15,16;
   * `never_truncated`: a frame is only handed to the parser when at least ExpectedResponseLength bytes
     had arrived (or the peer closed the stream).
  Known findings (all pinned by the repository's `..._ExpectedResponseLength` tests): the other eleven request
  types announce a wrong length (RTU FC1-4 one short, FC5 TCP 11 for 12, FC5/FC6 RTU 6 for 8, FC17 8/2 for a
  variable-length reply, FC23 TCP +8 / RTU +1); `C07_full` is false, with witnesses below.
-/
namespace Modbus.Properties.C07
open Modbus.Model Modbus.Lemmas

/-- `resp` is the conforming reply to request `r` -/
def ReplyTo : Req → Resp → Prop
  | .read fc u _ q, .bits fc' u' bl d =>
      (fc = 1 ∨ fc = 2) ∧ fc' = fc ∧ u' = u ∧ d.length = (q.toNat + 7) / 8 ∧ bl.toNat = d.length ∧ 1 ≤ d.length
  | .read fc u _ q, .regs fc' u' bl d =>
      (fc = 3 ∨ fc = 4) ∧ fc' = fc ∧ u' = u ∧ d.length = 2 * q.toNat ∧ bl.toNat = d.length ∧ 2 ≤ d.length
  | .wcoil u a s, .wcoil u' a' s' => u' = u ∧ a' = a ∧ s' = s
  | .wreg u a d0 d1, .wreg u' a' e0 e1 => u' = u ∧ a' = a ∧ e0 = d0 ∧ e1 = d1
  | .wcoils u a c _, .wmulti fc' u' a' c' => fc' = 15 ∧ u' = u ∧ a' = a ∧ c' = c
  | .wregs u a c _, .wmulti fc' u' a' c' => fc' = 16 ∧ u' = u ∧ a' = a ∧ c' = c
  | .rw u _ rq _ _ _, .regs fc' u' bl d =>
      fc' = 23 ∧ u' = u ∧ d.length = 2 * rq.toNat ∧ bl.toNat = d.length ∧ 2 ≤ d.length
  | _, _ => False

/-- request types whose `ExpectedResponseLength` is right -/
def LengthOK : Framing → Req → Prop
  | .tcp, .read .. => True
  | .tcp, .wreg .. => True
  | .tcp, .wcoils .. => True
  | .tcp, .wregs .. => True
  | .rtu, .wcoils .. => True
  | .rtu, .wregs .. => True
  | _, _ => False

theorem expLen_ok (fr : Framing) (tid : UInt16) (r : Req) (resp : Resp) (h : ReplyTo r resp) (hok : LengthOK fr r) :
    (resp.bytes fr tid).length = r.expLen fr := by
  have hT := (C02.bytesTCP_fc tid resp).2
  have hR := (C02.bytesRTU_fc resp).2.1
  -- cases in the order of the clauses of `ReplyTo`; each is closed up to evaluation of `Resp.pdu` and `Req.expLen`
  -- on constructors
  unfold ReplyTo at h
  split at h
  · cases fr
    · obtain ⟨hfc, rfl, -, hd, -⟩ := h
      refine hT.trans ?_
      rw [Resp.pdu, List.length_append, hd]
      rcases hfc with rfl | rfl <;> exact (Nat.add_assoc ..).symm
    · exact hok.elim
  · cases fr
    · obtain ⟨hfc, rfl, -, hd, hbl, -⟩ := h
      refine hT.trans ?_
      rw [Resp.pdu, hbl, Nat.sub_self, List.replicate_zero, List.append_nil, List.take_length, List.length_append, hd]
      rcases hfc with rfl | rfl <;> exact (Nat.add_assoc ..).symm
    · exact hok.elim
  · cases fr <;> exact hok.elim
  · cases fr
    · exact hT
    · exact hok.elim
  · cases fr
    · exact hT
    · exact hR
  · cases fr
    · exact hT
    · exact hR
  · cases fr <;> exact hok.elim
  · exact h.elim

theorem replyTo_wf9 (r : Req) (resp : Resp) (h : ReplyTo r resp) : Resp.WF9 resp := by
  unfold ReplyTo at h
  split at h
  · obtain ⟨hfc, rfl, -, -, hbl, hd⟩ := h; exact ⟨hfc, hbl, hd⟩
  · obtain ⟨hfc, rfl, -, -, hbl, hd⟩ := h; exact ⟨hfc.elim .inl (.inr ∘ .inl), hbl, hd⟩
  · trivial
  · trivial
  · exact .inl h.1
  · exact .inr h.1
  · exact ⟨.inr (.inr h.1), h.2.2.2⟩
  · exact h.elim

theorem getD_prefix (p q : Bytes) (i : Nat) (hi : i < p.length) : p.getD i 0 = (p ++ q).getD i 0 :=
  (getD_append_left p q hi).symm

theorem fc_lt_128 (resp : Resp) (h : Resp.WF9 resp) : resp.fc &&& 128 = 0 :=
  (and_128_eq_zero _).2 (C02.wf9_len resp h).2

/-- no prefix of a well-formed reply looks like an exception frame: the function byte, at the place where the
recogniser looks for it, has the high bit clear -/
theorem no_exception_prefix (k : ClientKind) (tid : UInt16) (resp : Resp) (hwf : Resp.WF9 resp) (p q : Bytes)
    (hpq : p ++ q = resp.bytes k.framing tid) : asProtocolError k p = none := by
  have hfc := fc_lt_128 resp hwf
  cases hk : k.framing with
  | tcp =>
    rw [hk] at hpq
    rw [asProtocolError_tcp hk, if_neg]
    rintro ⟨h9, hbit⟩
    rw [getD_prefix p q 7 (by omega), hpq] at hbit
    exact hbit ((C02.bytesTCP_fc tid resp).1 ▸ hfc)
  | rtu =>
    rw [hk] at hpq
    rw [asProtocolError_rtu hk, if_neg]
    rintro ⟨h5, -, hbit⟩
    rw [getD_prefix p q 1 (by omega), hpq] at hbit
    exact hbit ((C02.bytesRTU_fc resp).1 ▸ hfc)

/-- what C07 demands of one exchange: the parsed reply (with the reply's transaction id over TCP) -/
def Returns (k : ClientKind) (tid : UInt16) (resp : Resp) (out : DoOut) : Prop :=
  out = .ok resp (match k.framing with | .tcp => some tid | .rtu => none)

/-- `complete_reply` and `complete_reply_serial_eof` in one -/
theorem complete_reply_of (k : ClientKind) (fl : Flusher) (hooks : Bool) (hfl : ¬ (k = .serial ∧ fl = .failing))
    (reqBytes : Bytes) (tid : UInt16) (resp : Resp) (hwf : Resp.WF9 resp)
    (hmax : (resp.bytes k.framing tid).length ≤ k.maxLen) (script : List Ev)
    (hs : Feeds k (resp.bytes k.framing tid) script) :
    Returns k tid resp
      (doExchange k fl hooks reqBytes (resp.bytes k.framing tid).length false script).1 := by
  have hne : resp.bytes k.framing tid ≠ [] := by
    cases k.framing <;> simp [Resp.bytes, Resp.bytesTCP, Resp.bytesRTU, mbap, put16, withCrc, crcTrailer]
  have hno := no_exception_prefix k tid resp hwf
  have hx := stepOut_frame (fl := fl) (c := false) hmax (hno _ [] (List.append_nil _)) (Nat.le_refl _) hne
  rw [withFlush, if_neg hfl] at hx
  obtain ⟨log', h⟩ := readLoop_feeds hmax (Nat.le_refl _) (fun p q h _ => hno p q h) hx hs [] [] rfl hne
  rw [doExchange_read, h]
  unfold Returns replyOut
  cases hk : k.framing with
  | tcp => simp only [Resp.bytes]; rw [(C02.roundtrip_tcp tid resp hwf []).2]
  | rtu => simp only [Resp.bytes]; rw [(C02.roundtrip_rtu resp hwf []).2.2]

/-- any request whose expected length is the reply's length, any of the three clients (with a
flusher that does not fail), hooks installed or not, EVERY fragmentation of the reply with timeouts in between -/
theorem complete_reply (k : ClientKind) (fl : Flusher) (hooks : Bool) (hfl : ¬ (k = .serial ∧ fl = .failing))
    (reqBytes : Bytes) (tid : UInt16) (resp : Resp) (hwf : Resp.WF9 resp)
    (hmax : (resp.bytes k.framing tid).length ≤ k.maxLen)
    (script : List Ev) (hs : Frag (resp.bytes k.framing tid) script) :
    Returns k tid resp
      (doExchange k fl hooks reqBytes (resp.bytes k.framing tid).length false script).1 :=
  complete_reply_of k fl hooks hfl reqBytes tid resp hwf hmax script (hs.feeds k)

/-- the outcome of the call is the same for any two ways in which the transport
cuts the reply (and places timeouts between the pieces) -/
theorem fragmentation_independent (k : ClientKind) (fl : Flusher) (hooks₁ hooks₂ : Bool)
    (hfl : ¬ (k = .serial ∧ fl = .failing)) (reqBytes : Bytes) (tid : UInt16) (resp : Resp) (hwf : Resp.WF9 resp)
    (hmax : (resp.bytes k.framing tid).length ≤ k.maxLen)
    (s₁ s₂ : List Ev) (h₁ : Frag (resp.bytes k.framing tid) s₁) (h₂ : Frag (resp.bytes k.framing tid) s₂) :
    (doExchange k fl hooks₁ reqBytes (resp.bytes k.framing tid).length false s₁).1 =
    (doExchange k fl hooks₂ reqBytes (resp.bytes k.framing tid).length false s₂).1 := by
  have a := complete_reply k fl hooks₁ hfl reqBytes tid resp hwf hmax s₁ h₁
  have b := complete_reply k fl hooks₂ hfl reqBytes tid resp hwf hmax s₂ h₂
  unfold Returns at a b
  rw [a, b]

/-- a serial port that reports its own read timeout as `(0, io.EOF)`: such reads are empty timed-out reads. The
serial client returns the complete reply for every fragmentation that also contains them (before, inside and after the
reply), with any flusher that does not fail -/
theorem complete_reply_serial_eof (fl : Flusher) (hooks : Bool) (hfl : fl ≠ .failing)
    (reqBytes : Bytes) (tid : UInt16) (resp : Resp) (hwf : Resp.WF9 resp)
    (hmax : (resp.bytes .rtu tid).length ≤ ClientKind.serial.maxLen)
    (script : List Ev) (hs : FragSerial (resp.bytes .rtu tid) script) :
    Returns .serial tid resp
      (doExchange .serial fl hooks reqBytes (resp.bytes .rtu tid).length false script).1 :=
  complete_reply_of .serial fl hooks (fun h => hfl h.2) reqBytes tid resp hwf hmax script hs.feeds

/-- non-vacuity: a reply cut in two with empty end-of-stream reads before it and between its parts -/
example : FragSerial [1, 3, 2, 0, 7, 0xF9, 0x86] [.eof [], .data [1, 3, 2], .eof [], .timeout, .data [0, 7, 0xF9, 0x86], .eof []] :=
  .eofEmpty (.data [1, 3, 2] (by simp) (.eofEmpty (.timeout (.data [0, 7, 0xF9, 0x86] (by simp) (.done _)))))

/-- the statement for requests: every request type whose announced length is right, every conforming reply -/
theorem C07_partial (k : ClientKind) (fl : Flusher) (hooks : Bool) (hfl : ¬ (k = .serial ∧ fl = .failing))
    (tid : UInt16) (r : Req) (resp : Resp) (hrep : ReplyTo r resp) (hok : LengthOK k.framing r)
    (hmax : (resp.bytes k.framing tid).length ≤ k.maxLen)
    (script : List Ev) (hs : Frag (resp.bytes k.framing tid) script) :
    Returns k tid resp
      (doExchange k fl hooks (r.bytes k.framing tid) (r.expLen k.framing) false script).1 := by
  rw [← expLen_ok k.framing tid r resp hrep hok]
  exact complete_reply k fl hooks hfl _ tid resp (replyTo_wf9 r resp hrep) hmax script hs

/-- the full statement (all request types) -/
def C07_full : Prop :=
  ∀ (k : ClientKind) (tid : UInt16) (r : Req) (resp : Resp), ReplyTo r resp →
    (resp.bytes k.framing tid).length ≤ k.maxLen → ∀ script, Frag (resp.bytes k.framing tid) script →
    Returns k tid resp (doExchange k .none false (r.bytes k.framing tid) (r.expLen k.framing) false script).1

/-- KF-C07-fc5-tcp: the reply to a write-single-coil request is 12 bytes, 11 are announced; with a first read of
11 bytes the client parses a truncated frame and fails -/
theorem kf_fc5_tcp_witness :
    (doExchange .tcp .none false ((Req.wcoil 1 2 true).bytes .tcp 7) ((Req.wcoil 1 2 true).expLen .tcp) false
      [.data ((Resp.wcoil 1 2 true).bytes .tcp 7 |>.take 11), .data ((Resp.wcoil 1 2 true).bytes .tcp 7 |>.drop 11)]).1
      = .err (.parse .plain) := by decide

/-- KF-C07-fc23-tcp: 8 bytes too many are announced; the complete reply in one read ends in the timeout error -/
theorem kf_fc23_tcp_witness :
    (doExchange .tcp .none false ((Req.rw 1 0 1 0 1 [0, 0]).bytes .tcp 7) ((Req.rw 1 0 1 0 1 [0, 0]).expLen .tcp) false
      [.data ((Resp.regs 23 1 2 [0xAB, 0xCD]).bytes .tcp 7)]).1 = .err .timeout := by decide

theorem C07_full_false : ¬ C07_full := by
  intro h
  have := h .tcp 7 (.rw 1 0 1 0 1 [0, 0]) (.regs 23 1 2 [0xAB, 0xCD]) (by simp [ReplyTo]) (by decide) _
    (List.append_nil _ ▸ Frag.data _ (by decide) (.done []))
  exact nomatch kf_fc23_tcp_witness.symm.trans this

/-- exception replies over TCP: nine bytes with the high bit of the function byte set, any fragmentation,
any request that announces at least nine bytes -/
theorem exception_reply_tcp (fl : Flusher) (hooks : Bool) (reqBytes : Bytes) (expected : Nat) (x : Bytes)
    (hlen : x.length = 9) (hbit : x.getD 7 0 &&& 128 ≠ 0) (hexp : 9 ≤ expected)
    (script : List Ev) (hs : Frag x script) :
    (doExchange .tcp fl hooks reqBytes expected false script).1 =
      .err (.exc (.excT (be16 (x.getD 0 0) (x.getD 1 0)) (x.getD 6 0) (x.getD 7 0 - 128) (x.getD 8 0))) := by
  have hmax : x.length ≤ ClientKind.tcp.maxLen := by rw [hlen]; decide
  have hx := asProtocolError_tcp (k := .tcp) rfl x
  rw [if_pos ⟨hlen, hbit⟩] at hx
  have hpre : ∀ p q, p ++ q = x → q ≠ [] → asProtocolError .tcp p = none := by
    intro p q hpq hq
    rw [asProtocolError_tcp rfl, if_neg]
    rintro ⟨h9, -⟩
    have := congrArg List.length hpq
    have := List.length_pos_iff.2 hq
    rw [List.length_append] at *
    omega
  obtain ⟨log', h⟩ := readLoop_feeds hmax (by omega) hpre (stepOut_exc (fl := fl) (expected := expected) (c := false) hmax hx)
    (hs.feeds _) [] [] rfl (by rintro rfl; cases hlen)
  rw [doExchange_read, h]
  rfl

/-- a frame is handed to the parser only when at least the announced number of bytes
arrived, or (network clients) the peer closed the stream -/
theorem never_truncated (k : ClientKind) (fl : Flusher) (expected : Nat) (script : List Ev) (bs : Bytes)
    (log : List HookEv) (h : readLoop k fl expected script [] [] = (.frame bs, log)) :
    bs.length ≥ expected ∨ (k ≠ .serial ∧ ∃ b, Ev.eof b ∈ script) :=
  readLoop_frame_len h

/-- non-vacuity: three bytes in two reads, with timed-out reads before and between them and an end of stream after -/
example : Frag [1, 2, 3] [.timeout, .data [1], .timeout, .timeout, .data [2, 3], .eof []] :=
  .timeout (.data [1] (by simp) (.timeout (.timeout (.data [2, 3] (by simp) (.done _)))))

theorem handleFrame_ok {h : Handler} {frame sp : Bytes} {tid : UInt16} {r : Req}
    (hp : parseTCPRequest ⟨frame, sp⟩ = .ok (tid, r)) :
    handleFrame h frame sp =
      match h tid r with
      | .resp resp => some (resp.bytesTCP tid)
      | .typedErr c => some (excBytesTCP tid r.unit r.fc c)
      | .genericErr => some (excBytesTCP tid r.unit r.fc 4)
      | .panics => none := by
  unfold handleFrame
  rw [hp]
  rfl

/-- client ↔ server, end to end (TCP): a legal request built by the library (outside the FC1/FC2 parser finding),
sent to the library's own server whose handler answers `resp`: the server's reply to the encoded request is the
encoding of `resp` under the request's transaction id, and the client, reading that reply in ANY fragmentation,
returns exactly `resp`. Composes C09 (the server parses what the client encodes), the server's frame handling
(C16) and C07 (reassembly on the client). -/
theorem request_served_and_returned (fl : Flusher) (hooks : Bool) (tid : UInt16) (a : NewArgs) (r : Req)
    (hwf : C01.WF a) (hnew : newReq a = .ok r) (hleg : Spec.legal a = true) (hkf : Driver.kfC09 a = none)
    (h : Handler) (resp : Resp) (hh : h tid r = .resp resp) (hrep : ReplyTo r resp)
    (hok : LengthOK .tcp r) (hmax : (resp.bytes .tcp tid).length ≤ ClientKind.tcp.maxLen) (sp : Bytes) :
    handleFrame h (r.bytes .tcp tid) sp = some (resp.bytes .tcp tid) ∧
    ∀ script, Frag (resp.bytes .tcp tid) script →
      (doExchange .tcp fl hooks (r.bytes .tcp tid) (r.expLen .tcp) false script).1 = .ok resp (some tid) := by
  constructor
  · exact (handleFrame_ok ((C09.C09_roundtrip_partial tid a r hwf hnew hleg hkf).2.1 sp)).trans (by rw [hh]; rfl)
  · exact fun script hs => C07_partial .tcp fl hooks (fun h => nomatch h.1) tid r resp hrep hok hmax script hs

theorem u8_high_bit (x : UInt8) (h : x.toNat < 128) : (x + 128) &&& 128 ≠ 0 := by
  rw [Ne, and_128_eq_zero, UInt8.toNat_add]
  show ¬ (x.toNat + 128) % 256 < 128
  omega

theorem exception_returned (fl : Flusher) (hooks : Bool) (reqBytes : Bytes) (expected : Nat) (tid : UInt16)
    (u fc c : UInt8) (hfc : fc.toNat < 128) (hexp : 9 ≤ expected) (script : List Ev)
    (hs : Frag (excBytesTCP tid u fc c) script) :
    (doExchange .tcp fl hooks reqBytes expected false script).1 = .err (.exc (.excT tid u fc c)) := by
  rw [exception_reply_tcp fl hooks reqBytes expected (excBytesTCP tid u fc c) rfl (u8_high_bit fc hfc) hexp script hs]
  show DoOut.err (.exc (.excT (be16 (hi8 tid) (lo8 tid)) u (fc + 128 - 128) c)) = _
  rw [be16_hi_lo, UInt8.add_sub_cancel]

/-- client ↔ server, the error path (TCP): when the handler refuses a legal request with a typed Modbus error `c`,
the server answers the exception frame addressed to the request, and the client - whatever the fragmentation - ends
the call with exactly that exception: the request's transaction id, unit, function code, and the handler's code -/
theorem handler_error_reaches_caller (fl : Flusher) (hooks : Bool) (tid : UInt16) (a : NewArgs) (r : Req)
    (hwf : C01.WF a) (hnew : newReq a = .ok r) (hleg : Spec.legal a = true) (hkf : Driver.kfC09 a = none)
    (h : Handler) (c : UInt8) (hh : h tid r = .typedErr c) (hfc : r.fc.toNat < 128)
    (hexp : 9 ≤ r.expLen .tcp) (sp : Bytes) :
    handleFrame h (r.bytes .tcp tid) sp = some (excBytesTCP tid r.unit r.fc c) ∧
    ∀ script, Frag (excBytesTCP tid r.unit r.fc c) script →
      (doExchange .tcp fl hooks (r.bytes .tcp tid) (r.expLen .tcp) false script).1 =
        .err (.exc (.excT tid r.unit r.fc c)) := by
  constructor
  · exact (handleFrame_ok ((C09.C09_roundtrip_partial tid a r hwf hnew hleg hkf).2.1 sp)).trans (by rw [hh])
  · exact exception_returned fl hooks _ _ tid r.unit r.fc c hfc hexp

/-- the same for a handler error that is not a typed Modbus error: the caller sees "server device failure" (04),
addressed to the request -/
theorem handler_failure_reaches_caller (fl : Flusher) (hooks : Bool) (tid : UInt16) (a : NewArgs) (r : Req)
    (hwf : C01.WF a) (hnew : newReq a = .ok r) (hleg : Spec.legal a = true) (hkf : Driver.kfC09 a = none)
    (h : Handler) (hh : h tid r = .genericErr) (hfc : r.fc.toNat < 128)
    (hexp : 9 ≤ r.expLen .tcp) (sp : Bytes) :
    handleFrame h (r.bytes .tcp tid) sp = some (excBytesTCP tid r.unit r.fc 4) ∧
    ∀ script, Frag (excBytesTCP tid r.unit r.fc 4) script →
      (doExchange .tcp fl hooks (r.bytes .tcp tid) (r.expLen .tcp) false script).1 =
        .err (.exc (.excT tid r.unit r.fc 4)) := by
  constructor
  · exact (handleFrame_ok ((C09.C09_roundtrip_partial tid a r hwf hnew hleg hkf).2.1 sp)).trans (by rw [hh])
  · exact exception_returned fl hooks _ _ tid r.unit r.fc 4 hfc hexp

end Modbus.Properties.C07
