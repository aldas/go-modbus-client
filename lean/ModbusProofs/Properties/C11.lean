import ModbusProofs.Lemmas.Frames
import ModbusProofs.Lemmas.Slice
import Modbus.Driver.JudgePacket
import Modbus.Model.Builder
import ModbusProofs.Properties.C05
/-
  C11 — Coil lookup follows the Modbus bit layout and inverts the library's packing.

  `Driver.specCoilAt d i` = bit `i % 8` of byte `i / 8` (Modbus layout = `CoilsToBytes` layout).
  The code's `isBitSet` indexes payload bytes from the END (`len-1-i/8`): known finding
  KF-C11-byte-order, pinned by the repository's IsCoilSet tests. `Driver.kfC11` is the exact region
  (the two candidate bits differ); outside it the lookup is proved to follow the Modbus layout.
  The error cases (before the start address, beyond the last bit) hold without exception.
-/
namespace Modbus.Properties.C11
open Modbus.Model Modbus.Lemmas Modbus.Driver

/-- an address before the start address is an error -/
theorem before_start (d : Bytes) (start addr : UInt16) (h : addr < start) :
    isBitSet d start addr = .err .plain := by
  unfold isBitSet; simp [h]

/-- an address beyond the payload's last bit is an error -/
theorem beyond_end (d : Bytes) (start addr : UInt16) (h1 : ¬ addr < start)
    (h2 : d.length * 8 ≤ (addr - start).toNat) : isBitSet d start addr = .err .plain := by
  unfold isBitSet; simp [h1, h2]

/-- what the code computes inside the window: bit `i % 8` of byte `len - 1 - i / 8` -/
theorem inside (d : Bytes) (start addr : UInt16) (h1 : ¬ addr < start)
    (h2 : (addr - start).toNat < d.length * 8) :
    isBitSet d start addr =
      .ok ((d.getD (d.length - 1 - (addr - start).toNat / 8) 0).toNat.testBit ((addr - start).toNat % 8)) := by
  unfold isBitSet
  have h3 : ¬ d.length * 8 ≤ (addr - start).toNat := Nat.not_le.2 h2
  simp only [h1, h3, if_false]
  rw [idx_eq d [] _ (by omega)]
  rfl

/-- the property's lookup clause at full strength -/
def C11_full : Prop :=
  ∀ (d : Bytes) (start addr : UInt16), ¬ addr < start → (addr - start).toNat < d.length * 8 →
    isBitSet d start addr = .ok (specCoilAt d (addr - start).toNat)

/-- outside the known-finding region the lookup follows the Modbus layout -/
theorem C11_partial (d : Bytes) (start addr : UInt16) (h1 : ¬ addr < start)
    (h2 : (addr - start).toNat < d.length * 8) (hkf : kfC11 d start addr = none) :
    isBitSet d start addr = .ok (specCoilAt d (addr - start).toNat) := by
  rw [inside d start addr h1 h2]
  unfold kfC11 at hkf
  have hle : start ≤ addr := by
    rw [UInt16.le_iff_toNat_le]; rw [UInt16.lt_iff_toNat_lt] at h1; omega
  have h2' : (addr - start).toNat < 8 * d.length := Nat.mul_comm .. ▸ h2
  simp only [hle, h2', decide_true, Bool.and_self, if_true] at hkf
  split at hkf
  · exact absurd hkf (by simp)
  · rename_i hne
    simp only [bne_iff_ne, ne_eq, Decidable.not_not] at hne
    rw [hne]

/-- one-byte payloads are entirely outside the region: the lookup is the Modbus one for every coil of a single byte -/
theorem single_byte (b : UInt8) (start addr : UInt16) (h1 : ¬ addr < start) (h2 : (addr - start).toNat < 8) :
    isBitSet [b] start addr = .ok (b.toNat.testBit ((addr - start).toNat % 8)) := by
  rw [inside [b] start addr h1 (by simpa using h2)]
  have : (addr - start).toNat / 8 = 0 := Nat.div_eq_of_lt h2
  simp [this]

/-- KF-C11-byte-order: payload `01 00`, start 10: coil 10 is set in the Modbus layout, the lookup says false -/
theorem kf_witness :
    isBitSet [1, 0] 10 10 = .ok false ∧ specCoilAt [1, 0] 0 = true ∧
    kfC11 [1, 0] 10 10 = some "KF-C11-byte-order" := by decide

theorem C11_full_false : ¬ C11_full := by
  intro h
  have := h [1, 0] 10 10 (by decide) (by decide)
  rw [kf_witness.1] at this
  exact absurd this (by decide)

/-- write side: `CoilsToBytes` puts coil `i` into bit `i % 8` of byte `i / 8`, so a conforming device that
stores a write-multiple-coils payload and returns it for a read returns a payload whose Modbus-layout
lookup recovers every coil that was written -/
theorem write_readback (cs : List Bool) (i : Nat) (h : i < cs.length) :
    specCoilAt (coilsToBytes cs) i = cs.getD i false := by
  unfold specCoilAt
  exact coilsToBytes_bit cs i h

/-! ### coil fields extracted through the request builder

`BuilderRequest.ExtractFields` on a coil / discrete input response is one lookup per field, in field order, with the
request's start address: every reported value is exactly `isBitSet payload start field.address`, so everything proved
above about the lookup (errors before the start and beyond the last bit, Modbus layout outside the known-finding
region) carries over to every field, however many fields share an address. -/

/-- what the extraction reports for one field: the result of its own lookup -/
def coilVal (payload : Bytes) (start : UInt16) (f : Field) : PRes Val :=
  match isBitSet payload start f.addr with
  | .ok b => .ok (.bool b)
  | .err e => .err e
  | .panic => .panic

/-- the lookup never panics (it indexes inside the payload after its two range checks) -/
theorem isBitSet_no_panic (d : Bytes) (start addr : UInt16) : isBitSet d start addr ≠ .panic := by
  by_cases h1 : addr < start
  · rw [before_start d start addr h1]; nofun
  · by_cases h2 : d.length * 8 ≤ (addr - start).toNat
    · rw [beyond_end d start addr h1 h2]; nofun
    · rw [inside d start addr h1 (Nat.lt_of_not_le h2)]; nofun

theorem coilVal_isOk {payload : Bytes} {start : UInt16} {f : Field} (h : ∃ b, isBitSet payload start f.addr = .ok b) :
    (coilVal payload start f).isOk = true := by
  obtain ⟨b, hb⟩ := h
  rw [coilVal, hb]; rfl

theorem coilVal_ne_panic (payload : Bytes) (start : UInt16) (f : Field) : coilVal payload start f ≠ .panic := by
  unfold coilVal
  split
  · simp
  · simp
  · next h => exact absurd h (isBitSet_no_panic _ _ _)

theorem coilLoop_eq (lenient : Bool) (payload : Bytes) (start : UInt16) (fs : List Field)
    (acc : List (Field × PRes Val)) (he : Bool) :
    extractCoilLoop lenient payload start fs acc he = C05.specLoop lenient (coilVal payload start) fs acc he := by
  induction fs generalizing acc he with
  | nil => rfl
  | cons f rest ih =>
    unfold extractCoilLoop C05.specLoop
    rw [coilVal]
    cases isBitSet payload start f.addr <;> simp only [ih]

/-- the extraction loop in lenient mode reports every field, in order, with the result of its own lookup; the
outcome is `all` when no lookup failed and `some` otherwise -/
theorem coilLoop_lenient (payload : Bytes) (start : UInt16) (fs : List Field) (acc : List (Field × PRes Val)) (he : Bool) :
    extractCoilLoop true payload start fs acc he =
        .all (acc ++ fs.map fun f => (f, coilVal payload start f)) ∨
    extractCoilLoop true payload start fs acc he =
        .some_ (acc ++ fs.map fun f => (f, coilVal payload start f)) := by
  rw [coilLoop_eq]
  exact C05.specLoop_lenient _ fs acc he fun f _ => coilVal_ne_panic payload start f

/-- strict mode: when every field's lookup succeeds every field is reported with its own value -/
theorem coilLoop_strict_all_ok (payload : Bytes) (start : UInt16) (fs : List Field) (acc : List (Field × PRes Val))
    (hok : ∀ f ∈ fs, ∃ b, isBitSet payload start f.addr = .ok b) :
    extractCoilLoop false payload start fs acc false =
      .all (acc ++ fs.map fun f => (f, coilVal payload start f)) := by
  rw [coilLoop_eq, specLoop_ok fun f hf => coilVal_isOk (hok f hf)]
  rfl

/-- strict mode: a field whose lookup is an error makes the extraction fail as a whole -/
theorem coilLoop_strict_fails (payload : Bytes) (start : UInt16) (pre : List Field) (f : Field) (post : List Field)
    (acc : List (Field × PRes Val)) (hpre : ∀ g ∈ pre, ∃ b, isBitSet payload start g.addr = .ok b)
    (e : PErr) (hf : isBitSet payload start f.addr = .err e) :
    extractCoilLoop false payload start (pre ++ f :: post) acc false = .failed := by
  rw [coilLoop_eq]
  exact specLoop_fails_at (fun g hg => coilVal_isOk (hpre g hg)) (by rw [coilVal, hf]) post acc false

/-- builder → device → extraction for coils: for every field list and coil / discrete-input target for which the
request builder returns requests, every coil field is in exactly one request (permutation, C06), and for every request
and every reply payload that holds at least the requested number of coils (what a conforming device sends), the
lookup of EVERY field of that request succeeds - so strict extraction reports every field, each with the result of its
own lookup (whose value is the Modbus-layout bit outside the known-finding region, `C11_partial`). -/
theorem builder_coil_extract (fields : List Field) (target : Nat) (ht : target < 8) (hcoil : targetCoils target = true)
    (reqs : List BReq) (h : split fields target = .ok reqs) :
    (reqs.flatMap (·.fields)).Perm (fields.filter fun f => f.isCoil == true) ∧
    ∀ b ∈ reqs, ∃ q, b.req = .read (targetFC target) b.unit b.start (UInt16.ofNat q) ∧ 1 ≤ q ∧ q ≤ 2000 ∧
      ∀ (payload : Bytes), q ≤ payload.length * 8 →
        (∀ f ∈ b.fields, ∃ v, isBitSet payload b.start f.addr = .ok v) ∧
        extractCoilFields b payload false = .all (b.fields.map fun f => (f, coilVal payload b.start f)) := by
  obtain ⟨hperm, hreqs⟩ := C06.split_ok fields target ht reqs h
  rw [hcoil] at hperm
  refine ⟨hperm, ?_⟩
  intro b hb
  obtain ⟨q, hreq, hq1, hq2, _, hfs, _, _⟩ := hreqs b hb
  have hlim : C06.limitOf target = 2000 := by simp [C06.limitOf, hcoil]
  rw [hlim] at hq2
  refine ⟨q, hreq, hq1, hq2, ?_⟩
  intro payload hp
  have hall : ∀ f ∈ b.fields, ∃ v, isBitSet payload b.start f.addr = .ok v := by
    intro f hf
    obtain ⟨_, _, hlo, hhi⟩ := hfs f hf
    have hty : f.type = 14 := by simpa [Field.isCoil, hcoil] using (C06.split_field ht h hb hf).2.2
    have hsz : f.size = 1 := by unfold Field.size; simp [hty]
    have hle : b.start ≤ f.addr := UInt16.le_iff_toNat_le.2 hlo
    have hin : (f.addr - b.start).toNat < payload.length * 8 := by rw [UInt16.toNat_sub_of_le _ _ hle]; omega
    exact ⟨_, inside payload b.start f.addr (UInt16.not_lt.2 hle) hin⟩
  refine ⟨hall, ?_⟩
  unfold extractCoilFields
  exact coilLoop_strict_all_ok payload b.start b.fields [] hall

end Modbus.Properties.C11
