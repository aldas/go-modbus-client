import ModbusProofs.Lemmas.Group
import ModbusProofs.Lemmas.Batch
import ModbusProofs.Properties.C01
import Mathlib.Data.List.Forall2
/-
  C06 — Batched requests cover every field, stay within limits and never mix targets.

  `split` (model of splitter.go) = validate + group by (server, unit, coil/register) + merge fields
  at the same address into slots + sort slots by address + greedy batching + validating constructor.
  Theorem `split_ok`: whenever `split fields target` returns requests (it may return an error instead),
    (1,9) the fields of all requests together are a permutation of the fields of the requested kind;
    and for every request r with quantity q:
    (7) r has at least one field;   (2) every field of r has r's server address and unit id;
    (3) every field's span [addr, addr+size) lies in [start, start+q) over the natural numbers;
    (4) the window is tight: some field starts at `start`, some field ends at `start+q`;
    (5) 1 ≤ q ≤ limit (125 registers / 2000 coils);
    (6) the packet is the read request of the target's function for (unit, start, q)
        (its bytes are then the specified ADU by C01).
  `never_split` (8): a group whose slots all end within `limit` of its lowest address yields one batch.
  All arithmetic is over ℕ (after the repair 7897f7b of the uint16 wrap).
-/
namespace Modbus.Properties.C06
open Modbus.Model Modbus.Lemmas

def limitOf (target : Nat) : Nat := if targetCoils target then 2000 else 125

/-- what `split` makes of one batch -/
def ReqOf (fc : UInt8) (lim : Nat) (b : Batch) (r : BReq) : Prop :=
  r.server = b.server ∧ r.unit = b.unit ∧ r.start = b.start ∧ r.fields = b.fields ∧
  r.req = .read fc b.unit b.start (UInt16.ofNat b.qty) ∧ 1 ≤ b.qty % 65536 ∧ b.qty % 65536 ≤ lim

/-- what C06 demands of one request with quantity `q` -/
def RequestOK (fc : UInt8) (lim : Nat) (r : BReq) : Prop :=
  ∃ q, r.req = .read fc r.unit r.start (UInt16.ofNat q) ∧ 1 ≤ q ∧ q ≤ lim ∧ r.fields ≠ [] ∧
    (∀ f ∈ r.fields, f.server = r.server ∧ f.unit = r.unit ∧ r.start.toNat ≤ f.addr.toNat ∧
      f.addr.toNat + f.size ≤ r.start.toNat + q) ∧
    (∃ f ∈ r.fields, f.addr = r.start) ∧ (∃ f ∈ r.fields, f.addr.toNat + f.size = r.start.toNat + q)

theorem ReqOf.qty_ne_zero {fc : UInt8} {lim : Nat} {b : Batch} {r : BReq} (h : ReqOf fc lim b r) : b.qty ≠ 0 :=
  fun h0 => absurd (h0 ▸ h.2.2.2.2.2.1) (by decide)

theorem newReq_read {a : NewArgs} {r : Req} (h : newReq a = .ok r) (hfc : a.fc = 1 ∨ a.fc = 2 ∨ a.fc = 3 ∨ a.fc = 4) :
    r = .read a.fc a.unit a.addr a.qty ∧ 1 ≤ a.qty.toNat ∧ a.qty.toNat ≤ (if a.fc = 1 ∨ a.fc = 2 then 2000 else 125) := by
  apply C01.newReq_cases h
  · exact fun h12 h1 h2 => ⟨rfl, h1, by rwa [if_pos h12]⟩
  · intro h34 h1 h2
    have : ¬ (a.fc = 1 ∨ a.fc = 2) := by rcases h34 with e | e <;> rw [e] <;> decide
    exact ⟨rfl, h1, by rwa [if_neg this]⟩
  -- the other constructors are not called: `a.fc` is one of 1..4
  all_goals exact fun e => absurd hfc (by rw [e]; decide)

theorem mkRequests_spec (fc : UInt8) (hfc : fc = 1 ∨ fc = 2 ∨ fc = 3 ∨ fc = 4) :
    ∀ (bs : List Batch) (rs : List BReq), mkRequests fc bs = .ok rs →
      List.Forall₂ (ReqOf fc (if fc = 1 ∨ fc = 2 then 2000 else 125)) bs rs := by
  intro bs
  induction bs with
  | nil => intro rs h; cases h; exact .nil
  | cons b rest ih =>
    intro rs h
    obtain ⟨r, hn, h⟩ := Res.bind_eq_ok.1 h
    obtain ⟨more, hm, h⟩ := Res.bind_eq_ok.1 h
    cases h
    obtain ⟨hr, h1, h2⟩ := newReq_read hn hfc
    rw [UInt16.toNat_ofNat'] at h1 h2
    exact .cons ⟨rfl, rfl, rfl, rfl, hr, h1, h2⟩ (ih more hm)

theorem forall2_split {α β} {R : α → β → Prop} : ∀ (l1 l2 : List α) (r : List β), List.Forall₂ R (l1 ++ l2) r →
    ∃ r1 r2, r = r1 ++ r2 ∧ List.Forall₂ R l1 r1 ∧ List.Forall₂ R l2 r2
  | [], l2, r, h => ⟨[], r, rfl, .nil, h⟩
  | a :: l1, l2, r, h => by
    cases h with
    | cons hab ht =>
      obtain ⟨r1, r2, e, h1, h2⟩ := forall2_split l1 l2 _ ht
      exact ⟨_ :: r1, r2, by rw [e]; rfl, .cons hab h1, h2⟩

/-- a batch of quantity 0 anywhere makes `mkRequests` fail (the constructor refuses quantity 0) -/
theorem mkRequests_zero (fc : UInt8) (hfc : fc = 1 ∨ fc = 2 ∨ fc = 3 ∨ fc = 4) (pre : List Batch) (b : Batch)
    (post : List Batch) (hb : b.qty = 0) (rs : List BReq) : mkRequests fc (pre ++ b :: post) ≠ .ok rs := by
  intro h
  obtain ⟨r1, r2, _, _, h2⟩ := forall2_split pre (b :: post) rs (mkRequests_spec fc hfc _ _ h)
  cases h2 with
  | cons hr _ => exact hr.qty_ne_zero hb

theorem field_size_le (f : Field) : f.size ≤ 128 := by
  unfold Field.size
  have := f.length.toNat_lt
  (repeat' split) <;> omega

/-- the batches of one well-formed group, when none of them is the empty batch -/
theorem group_batches (g : Group) (hg : GroupOK g) :
    (∃ css, GoodAll (if g.isCoil then 2000 else 125) g.server g.unit (batchGroup g) css ∧
        (css.flatten).Perm g.slots) ∨
    (∃ b more, batchGroup g = b :: more ∧ b.qty = 0) := by
  have hperm := sortSlots_perm g.slots
  have hasc := sortSlots_asc g.slots
  cases hs : sortSlots g.slots with
  | nil => rw [hs] at hperm; exact absurd hperm.nil_eq.symm hg.ne
  | cons s rest =>
    rw [hs] at hperm hasc
    rw [batchGroup_eq g s rest hs]
    generalize (if g.isCoil then 2000 else 125) = lim
    split
    · exact .inr ⟨_, _, rfl, rfl⟩
    · obtain ⟨hlo, hasc⟩ := List.pairwise_cons.1 hasc
      obtain ⟨css, h1, h2⟩ := batches_good rest (GoodBatch.single s) hlo hasc
      exact .inl ⟨css, h1, h2 ▸ hperm⟩

/-- everything C06 says about one request, given the batch it was built from and the slots of the batch -/
theorem request_ok (fc : UInt8) (lim : Nat) (server : String) (unit : UInt8) (isCoil : Bool)
    (b : Batch) (cs : List Slot) (r : BReq) (hb : GoodBatch lim server unit b cs) (hr : ReqOf fc lim b r)
    (hslots : ∀ s ∈ cs, SlotOK s)
    (hkey : ∀ s ∈ cs, ∀ f ∈ s.fields, fkey f = (server, unit, isCoil)) (hlim : lim < 65536) :
    RequestOK fc lim r := by
  obtain ⟨e1, e2, e3, e4, e5, e6, e7⟩ := hr
  -- the quantity is below 65536: it is within the limit, or the size of one field
  have hq : b.qty % 65536 = b.qty := Nat.mod_eq_of_lt <| by
    rcases hb.qtyB with h | ⟨s, hs, hse⟩
    · omega
    · obtain ⟨f, _, hfe⟩ := (hslots s hs).att
      have := field_size_le f
      omega
  rw [hq] at e6 e7
  have hmem : ∀ {s f}, s ∈ cs → f ∈ s.fields → f ∈ r.fields := fun hs hf => by
    rw [e4, hb.fields]; exact List.mem_flatMap.2 ⟨_, hs, hf⟩
  obtain ⟨s0, hs0⟩ := List.exists_mem_of_ne_nil cs hb.ne
  obtain ⟨f0, hf0⟩ := List.exists_mem_of_ne_nil _ (hslots s0 hs0).ne
  refine ⟨b.qty, by rw [e2, e3]; exact e5, e6, e7, List.ne_nil_of_mem (hmem hs0 hf0), fun f hf => ?_, ?_, ?_⟩
  · rw [e4, hb.fields] at hf
    obtain ⟨s, hs, hfs⟩ := List.mem_flatMap.1 hf
    have hk := hkey s hs f hfs
    simp only [fkey, Prod.mk.injEq] at hk
    have hat := (hslots s hs).at_ f hfs
    have h1 := hb.lo s hs
    have h2 := hb.hi s hs
    rw [e1, e2, e3, hb.srv.1, hb.srv.2, hat.1]
    exact ⟨hk.1, hk.2.1, h1, by omega⟩
  · obtain ⟨s, hs, hse⟩ := hb.loAtt
    obtain ⟨f, hf⟩ := List.exists_mem_of_ne_nil _ (hslots s hs).ne
    exact ⟨f, hmem hs hf, by rw [e3, ((hslots s hs).at_ f hf).1]; exact UInt16.toNat_inj.1 hse⟩
  · obtain ⟨s, hs, hse⟩ := hb.hiAtt
    obtain ⟨f, hf, hfe⟩ := (hslots s hs).att
    exact ⟨f, hmem hs hf, by rw [e3, ((hslots s hs).at_ f hf).1, hfe]; exact hse⟩

theorem good_reqs (fc : UInt8) (lim : Nat) (server : String) (unit : UInt8) :
    ∀ (bs : List Batch) (css : List (List Slot)) (rs : List BReq),
      GoodAll lim server unit bs css → List.Forall₂ (ReqOf fc lim) bs rs →
      rs.flatMap (·.fields) = css.flatten.flatMap (·.fields) ∧
      ∀ r ∈ rs, ∃ b cs, cs ∈ css ∧ GoodBatch lim server unit b cs ∧ ReqOf fc lim b r := by
  intro bs css rs hg
  induction hg generalizing rs with
  | nil => intro h; cases h; exact ⟨rfl, by simp⟩
  | cons hb _ ih =>
    intro h
    cases h with
    | cons hr ht =>
      obtain ⟨h1, h2⟩ := ih _ ht
      refine ⟨by simp only [List.flatMap_cons, List.flatten_cons, List.flatMap_append, h1, hr.2.2.2.1, hb.fields],
        List.forall_mem_cons.2 ⟨⟨_, _, by simp, hb, hr⟩, fun r hrm => ?_⟩⟩
      obtain ⟨b, cs, hcs, hgb, hro⟩ := h2 r hrm
      exact ⟨b, cs, by simp [hcs], hgb, hro⟩

theorem groups_requests (fc : UInt8) (lim : Nat) (hlim : lim < 65536) :
    ∀ (gs : List Group) (rs : List BReq),
      (∀ g ∈ gs, GroupOK g ∧ (if g.isCoil then 2000 else 125) = lim) →
      List.Forall₂ (ReqOf fc lim) (gs.flatMap batchGroup) rs →
      (rs.flatMap (·.fields)).Perm (allFields gs) ∧ ∀ r ∈ rs, RequestOK fc lim r := by
  intro gs
  induction gs with
  | nil => intro rs _ h; cases h; exact ⟨by simp [allFields], by simp⟩
  | cons g rest ih =>
    intro rs hall h
    obtain ⟨r1, r2, rfl, h1, h2⟩ := forall2_split _ _ _ (List.flatMap_cons ▸ h)
    obtain ⟨⟨hgok, hglim⟩, hrest⟩ := List.forall_mem_cons.1 hall
    obtain ⟨ihp, ihr⟩ := ih r2 hrest h2
    rcases group_batches g hgok with ⟨css, hga, hperm⟩ | ⟨b, more, hbm, hb0⟩
    · rw [hglim] at hga
      obtain ⟨hf, hreq⟩ := good_reqs fc lim g.server g.unit _ _ _ hga h1
      refine ⟨?_, List.forall_mem_append.2 ⟨fun r hr => ?_, ihr⟩⟩
      · simp only [List.flatMap_append, allFields, List.flatMap_cons, hf]
        exact (hperm.flatMap_right _).append ihp
      · obtain ⟨b, cs, hcs, hgb, hro⟩ := hreq r hr
        have hsub : ∀ s ∈ cs, s ∈ g.slots := fun s hs => hperm.mem_iff.1 (List.mem_flatten.2 ⟨cs, hcs, hs⟩)
        exact request_ok fc lim g.server g.unit g.isCoil b cs r hgb hro
          (fun s hs => hgok.slots.1 s (hsub s hs)) (fun s hs => hgok.mem s (hsub s hs)) hlim
    · -- the empty batch would have made the constructor fail
      rw [hbm] at h1
      cases h1 with
      | cons hr _ => exact absurd hb0 hr.qty_ne_zero

theorem target_fc : ∀ target < 8,
    (targetFC target = 1 ∨ targetFC target = 2 ∨ targetFC target = 3 ∨ targetFC target = 4) ∧
    (if targetFC target = 1 ∨ targetFC target = 2 then 2000 else 125) = limitOf target := by decide

/-- clauses (1)-(7) and (9) -/
theorem split_ok (fields : List Field) (target : Nat) (ht : target < 8) (reqs : List BReq)
    (h : split fields target = .ok reqs) :
    (reqs.flatMap (·.fields)).Perm (fields.filter fun f => f.isCoil == targetCoils target) ∧
    ∀ r ∈ reqs, RequestOK (targetFC target) (limitOf target) r := by
  obtain ⟨gs, hg, h⟩ := Res.bind_eq_ok.1 h
  obtain ⟨hok, hcoil, hperm, _⟩ := groupFields_ok hg
  obtain ⟨hfc, hlimeq⟩ := target_fc target ht
  have hspec := hlimeq ▸ mkRequests_spec (targetFC target) hfc _ _ h
  obtain ⟨hp, hr⟩ := groups_requests (targetFC target) (limitOf target)
    (by unfold limitOf; split <;> decide) gs reqs (fun g hg' => ⟨hok.1 g hg', by rw [hcoil g hg']; rfl⟩) hspec
  exact ⟨hp.trans hperm, hr⟩

theorem split_field {fields : List Field} {target : Nat} (ht : target < 8) {reqs : List BReq}
    (h : split fields target = .ok reqs) {b : BReq} (hb : b ∈ reqs) {f : Field} (hf : f ∈ b.fields) :
    f ∈ fields ∧ f.valid = true ∧ f.isCoil = targetCoils target := by
  have hmem := List.mem_filter.1 ((split_ok fields target ht reqs h).1.mem_iff.1 (List.mem_flatMap.2 ⟨b, hb, hf⟩))
  obtain ⟨gs, hg, _⟩ := Res.bind_eq_ok.1 h
  exact ⟨hmem.1, (groupFields_ok hg).2.2.2 f hmem.1, by simpa using hmem.2⟩

/-- (8) never split when the whole group fits: if every slot of the group ends within `limit` registers of the
group's lowest address, the group becomes exactly one batch (hence one request) -/
theorem never_split (g : Group) (s : Slot) (rest : List Slot) (hs : sortSlots g.slots = s :: rest)
    (hfit : ∀ t ∈ s :: rest, t.addr.toNat + t.size - s.addr.toNat ≤ (if g.isCoil then 2000 else 125)) :
    (batchGroup g).length = 1 := by
  obtain ⟨h0, hrest⟩ := List.forall_mem_cons.1 hfit
  rw [batchGroup_eq g s rest hs, if_neg (by omega)]
  exact batches_nosplit rest _ hrest

/-- the groups behind a successful split: pairwise different (server, unit, kind), every field of a group carries
the group's key - so "the group" of (8) is exactly the set of requested-kind fields of one server and unit -/
theorem groups_partition (fields : List Field) (c : Bool) (gs : List Group) (h : groupFields fields c = .ok gs) :
    GroupsOK gs ∧ (allFields gs).Perm (fields.filter fun f => f.isCoil == c) :=
  ⟨(groupFields_ok h).1, (groupFields_ok h).2.2.1⟩

/-- non-vacuity: two registers 65535 apart are two requests (the unrepaired code made them one) -/
example : (split [⟨"a", "s", 1, 0, 5, 0, false, 0, 0⟩, ⟨"b", "s", 1, 65535, 5, 0, false, 0, 0⟩] 4).isOk = true := by
  decide

end Modbus.Properties.C06
