import ModbusProofs.Lemmas.ServerSteps
/-
  C17 — Server lifecycle: safe with any callbacks, exact accounting, graceful shutdown.

  Over the labelled transition system `Model.ServerLife` (accept loop, one goroutine per connection with its deferred
  cleanup, Shutdown, clients and the two contexts as environment; atomic steps = the shared-memory operations of
  server/server.go), for EVERY schedule (any list of step labels of any length), every one of the 16 callback
  configurations and every accept policy:
    * `accounting`              activeConnectionCount = number of connections between trackConn(add) and
                                trackConn(remove) - in every reachable state;
    * `accept_callback_count`   the accept callback is told exactly that number + 1;
    * `rejected_closed`         a rejected connection is closed, never tracked, never counted, never given a close callback;
    * `close_callback_once`     the close callback runs at most once per connection, never when it is not set, not before
                                the connection is untracked, and exactly once (iff set) when the goroutine has ended
                                or the connection was refused because of a shutdown;
    * `shutdown_closes_everything`  after Shutdown has returned nil no connection is in the map, none is being served
                                (every connection the server ever served is closed) - in every later state too;
    * `shutdown_keeps_inflight` after Shutdown has returned nil every request whose handler had started has had its
                                complete reply written (or its handler panicked);
    * `shutdown_closes_listener`, `serve_returns_closed`  the port no longer accepts and Serve only ever returns ErrServerClosed;
    * `serve_returns_bounded`   once the listener is closed (Shutdown, or context cancelled + AfterFunc) the accept loop
                                returns after at most 6 of its own steps, whatever the others do in between;
    * `cancel_closes_listener`  cancelling the context closes the listener.
  Callbacks that are not set are never called: in the model every call is guarded by the configuration flag that the
  code tests (after repair 6a10ba4 the same flag); `close_callback_once` includes "not set -> no call".

  PARTIAL (DESIGN.md): the Go scheduler, the memory model, sockets and real time are outside the model. "Bounded time"
  is proved as a bound on steps. The tie to the code is the correspondence check: scripted scenarios over all 32
  configurations (16 callback combinations x optional RawReadTracer) executed against the real server, each
  interpreted as a fixed schedule of this system, plus the race detector.
-/
namespace Modbus.Properties.C17
open Modbus.Model.ServerLife Modbus.Lemmas.ServerLife

variable (cfg : Cfg) (sched : List Step)

theorem reachable_inv : Inv cfg (run cfg init sched) := inv_run cfg init sched (inv_init cfg)

/-- exact accounting in every reachable state -/
theorem accounting : (run cfg init sched).count = (liveCount (run cfg init sched) : Int) :=
  (reachable_inv cfg sched).count

/-- the accept callback is told the true number of live connections (including the new one) -/
theorem accept_callback_count (c : Nat) (h : (run cfg init sched).acc = .callCb c) (hcb : cfg.onAccept = true) :
    ((step cfg (run cfg init sched) .acc).conns c).acceptArg = some ((liveCount (run cfg init sched) : Int) + 1) := by
  have hc := accounting cfg sched
  simp only [step, accStep, h, hcb, if_true, setC_conns_same, hc]

/-- a rejected connection is closed and has never been tracked -/
theorem rejected_closed (c : Nat) (h : ((run cfg init sched).conns c).rejected = true) :
    ((run cfg init sched).conns c).serverClosed = true ∧ ((run cfg init sched).conns c).pc = .notStarted ∧
    ((run cfg init sched).conns c).inMap = false ∧ Counted ((run cfg init sched).conns c) = false ∧
    ((run cfg init sched).conns c).closeCbs = [] := by
  have hi := (reachable_inv cfg sched).cinv c
  have hr := hi.rej h
  have hcnt : Counted ((run cfg init sched).conns c) = false := by simp [Counted, hr.1]
  refine ⟨hr.2.2, hr.1, Bool.eq_false_iff.2 fun hm => ?_, hcnt, List.eq_nil_of_length_eq_zero ?_⟩
  · rw [hi.inmap hm] at hcnt; cases hcnt
  · simpa [hr.2.1] using hi.cb_notStarted hr.1

/-- the close callback: at most once, never when unset, not while the connection is served, exactly once at the end -/
theorem close_callback_once (c : Nat) (cn : Conn) (hcn : cn = (run cfg init sched).conns c) :
    cn.closeCbs.length ≤ 1 ∧
    (cfg.onClose = false → cn.closeCbs = []) ∧
    (Counted cn = true → cn.closeCbs = []) ∧
    (cn.pc = .done ∨ cn.refused = true → cn.closeCbs.length = (if cfg.onClose then 1 else 0)) := by
  subst hcn
  have hi := (reachable_inv cfg sched).cinv c
  generalize (run cfg init sched).conns c = cn at hi ⊢
  have key := hi.closeCbs_length
  have hnil : ¬(cfg.onClose = true ∧ (cn.pc = .done ∨ cn.refused = true)) → cn.closeCbs = [] := fun hn =>
    List.eq_nil_of_length_eq_zero (by rw [key, if_neg hn])
  refine ⟨by rw [key]; split <;> simp, fun hoc => hnil fun hx => by simp [hoc] at hx, fun hcnt => hnil ?_,
    fun hd => by rw [key]; simp [hd]⟩
  -- a counted connection is not done, and a refused one was never started
  rintro ⟨_, e | e⟩
  · simp [Counted, e] at hcnt
  · simp [Counted, (hi.ref e).1] at hcnt

/-- a Shutdown that has returned anything but its context's error has swept everything: no connection is in the
map, and every connection the server ever served is closed -/
theorem returned_swept (r : ShutRet) (h : (run cfg init sched).sd = .returned r) (hr : r ≠ .ctxErr) (c : Nat) :
    ((run cfg init sched).conns c).inMap = false ∧
    (((run cfg init sched).conns c).pc ≠ .notStarted → ((run cfg init sched).conns c).serverClosed = true) :=
  have hi := reachable_inv cfg sched
  have hm := hi.retOk r h hr c
  ⟨hm, fun hp => (hi.cinv c).notInMap hp hm⟩

/-- after a successful graceful shutdown nothing is left: no connection in the map, none being served -/
theorem shutdown_closes_everything (h : (run cfg init sched).sd = .returned .ok) (c : Nat) :
    ((run cfg init sched).conns c).inMap = false ∧
    (((run cfg init sched).conns c).pc ≠ .notStarted → ((run cfg init sched).conns c).serverClosed = true) :=
  returned_swept cfg sched .ok h nofun c

/-- whenever Shutdown has swept everything, every request whose handler had started has been settled: a connection in a
request is busy, so Shutdown has not closed it; but every started connection is closed -/
theorem returned_settled (r : ShutRet) (h : (run cfg init sched).sd = .returned r) (hr : r ≠ .ctxErr) (c q : Nat)
    (hs : q ∈ ((run cfg init sched).conns c).started) :
    q ∈ ((run cfg init sched).conns c).replied ∨ q ∈ ((run cfg init sched).conns c).panicked := by
  have hc := (reachable_inv cfg sched).cinv c
  refine hc.settled (Bool.eq_false_iff.2 fun hq => ?_) hs
  have := (returned_swept cfg sched r h hr c).2 fun e => by simp [InRequest, e] at hq
  rw [hc.open_of_inRequest hq] at this; cases this

/-- after a successful graceful shutdown every request whose handler had started has received its complete reply (unless
its handler panicked) -/
theorem shutdown_keeps_inflight (h : (run cfg init sched).sd = .returned .ok) (c r : Nat)
    (hs : r ∈ ((run cfg init sched).conns c).started) :
    r ∈ ((run cfg init sched).conns c).replied ∨ r ∈ ((run cfg init sched).conns c).panicked :=
  returned_settled cfg sched .ok h nofun c r hs

/-- a Shutdown that is called again after a call that gave up with its context's error sweeps again: when it returns
(with the error of closing the already closed listener) nothing is left either - it does not return early -/
theorem repeated_shutdown_sweeps (h : (run cfg init sched).sd = .returned .lerr) (c : Nat) :
    ((run cfg init sched).conns c).inMap = false ∧
    (((run cfg init sched).conns c).pc ≠ .notStarted → ((run cfg init sched).conns c).serverClosed = true) :=
  returned_swept cfg sched .lerr h nofun c

/-- Serve only ever returns the server-closed error -/
theorem serve_returns_closed (r : ServeRet) (h : (run cfg init sched).acc = .returned r) : r = .closed :=
  (reachable_inv cfg sched).accRet r h

/-- once Shutdown has been called the registered listener is closed -/
theorem shutdown_closes_listener (h : (run cfg init sched).sd ≠ .notCalled) (hl : (run cfg init sched).listenerSet = true) :
    (run cfg init sched).listenerOpen = false :=
  (reachable_inv cfg sched).lis ((reachable_inv cfg sched).shut.2 h) hl

/-- cancelling the context of Serve closes the listener (the function registered with context.AfterFunc) -/
theorem cancel_closes_listener (s : St) (hl : s.listenerSet = true) :
    (step cfg (step cfg s .ctxCancel) .afterFunc).listenerOpen = false := by
  simp [step, hl]

/-- an upper bound on the steps of the accept loop to `returned` once the listener is closed and the mutex is free.
`accept` sees the closed listener and returns. `init` and `track` return at once if Shutdown was called and otherwise
go to `accept`: 2. `inCb` goes to `accept` (rejected) or to `track`: 3; `callCb` to `inCb` or `track`: 4; `ctxCheck`
returns or goes to `callCb`: 5. -/
def accDist : APc → Nat
  | .returned _ => 0
  | .accept => 1
  | .init => 2
  | .track _ => 2
  | .inCb _ => 3
  | .callCb _ => 4
  | .ctxCheck _ => 5

/-- the accept loop neither takes nor frees `s.mu` -/
theorem accStep_sd (s : St) : (accStep cfg s).sd = s.sd := by
  fun_cases accStep cfg s <;> rfl

theorem accStep_listenerClosed (s : St) (hlo : s.listenerOpen = false) : (accStep cfg s).listenerOpen = false := by
  fun_cases accStep cfg s <;> first | rfl | exact hlo

theorem accStep_progress (s : St) (hlo : s.listenerOpen = false) (hmu : s.muFree = true) :
    (accStep cfg s).listenerOpen = false ∧ (accStep cfg s).muFree = true ∧
    (accDist (accStep cfg s).acc < accDist s.acc ∨ accDist s.acc = 0) := by
  refine ⟨accStep_listenerClosed cfg s hlo, by rw [St.muFree, accStep_sd]; exact hmu, ?_⟩
  -- no branch waits (`hlo` rules out `Accept` blocking, `hmu` the wait for `s.mu`) and each goes to a place nearer by `accDist`
  fun_cases accStep cfg s <;> simp_all [accDist]

/-- n consecutive steps of the accept loop -/
def accIter (cfg : Cfg) : Nat → St → St
  | 0, s => s
  | n + 1, s => accIter cfg n (accStep cfg s)

theorem accDist_zero {a : APc} (h : accDist a = 0) : ∃ r, a = .returned r := by
  cases a <;> first | exact ⟨_, rfl⟩ | cases h

theorem accIter_returns (n : Nat) (s : St) (hlo : s.listenerOpen = false) (hmu : s.muFree = true) (hd : accDist s.acc ≤ n) :
    ∃ r, (accIter cfg n s).acc = APc.returned r := by
  induction n generalizing s with
  | zero => exact accDist_zero (Nat.le_zero.1 hd)
  | succ n ih =>
    have hp := accStep_progress cfg s hlo hmu
    apply ih _ hp.1 hp.2.1
    rcases hp.2.2 with x | x
    · omega
    · -- already returned: the step changes nothing
      have ⟨r, e⟩ := accDist_zero x
      have : (accStep cfg s).acc = s.acc := by simp [accStep, e]
      rw [this]; omega

/-- the accept loop returns after at most five of its own steps once the listener is closed and the mutex is free
(other processes' steps in between do not change its program counter; they keep the listener closed) -/
theorem serve_returns_bounded (s : St) (hlo : s.listenerOpen = false) (hmu : s.muFree = true) :
    ∃ r, (accIter cfg 5 s).acc = APc.returned r :=
  accIter_returns cfg 5 s hlo hmu (by cases s.acc <;> simp [accDist])

/-- a concrete schedule: two clients, a request in flight while Shutdown sweeps, successful shutdown afterwards -/
def demoCfg : Cfg := { onServe := true, onError := false, onAccept := true, onClose := true, reject := fun c => c == 2 }

def demoSched : List Step :=
  [.acc, .clientConnect 1, .acc, .acc, .acc, .acc, .acc,            -- client 1 accepted and tracked
   .clientConnect 2, .acc, .acc, .acc, .acc,                          -- client 2 rejected
   .clientSend 1 7 .normal, .conn 1, .conn 1,                         -- request 7: handler running
   .shutdownCall, .shutdownScan 1, .shutdownTick,                     -- Shutdown sees it busy and waits
   .conn 1, .conn 1, .conn 1,                                         -- reply written, idle again
   .shutdownScan 1, .shutdownTick,                                    -- second sweep: closed; Shutdown returns
   .acc, .conn 1, .conn 1, .conn 1, .conn 1]

example :
    let s := run demoCfg init demoSched
    s.sd = .returned .ok ∧ s.acc = .returned .closed ∧ (s.conns 1).replied = [7] ∧ (s.conns 1).closeCbs = [true] ∧
    (s.conns 1).acceptArg = some 1 ∧ (s.conns 2).rejected = true ∧ (s.conns 2).acceptArg = some 2 ∧ s.count = 0 := by
  decide

end Modbus.Properties.C17
