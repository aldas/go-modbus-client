import ModbusProofs.Lemmas.ClientLock
/-
  C14 — One client instance can be shared by goroutines without interleaving.

  Over the model `Model.ClientLock` (N threads; atomic steps acquire / dial / close / write / read / release; a
  transport that answers in arrival order), for EVERY schedule (any list of thread choices, of any length), any
  number of threads, any programs of Do / Connect / Close calls and any chunking of the replies:
    * `mutual_exclusion`   at most one thread is inside a call, and it is the holder of the mutex;
    * `wire_never_interleaved`  the transport's log is accepted by the serial-exchange automaton `wireRun`:
                           a sequence of whole exchanges (write, then all chunks of that request's reply, read by the
                           same thread on the same connection), dials and closes, followed by at most the holder's
                           exchange in progress; with nobody inside a call it is a sequence of whole exchanges;
    * `own_reply`          every response returned by `Do` answers the caller's own request;
    * `once_in_order`      every thread's completed calls ++ remaining calls = its program;
    * `no_deadlock`        while some call is pending or in progress, some thread can move.
  `unlocked_interleaves` shows that the statement is about the mutex: with the acquire test removed the same
  model has a schedule in which a caller receives the reply to another caller's request.

  Partial in one respect, stated in DESIGN.md: the Go scheduler and memory model are not modelled; the hypothesis
  that the steps between acquire and release are exactly the transport accesses is discharged by the static
  lock-discipline facts extracted from client.go / serialclient.go on every run and by replaying the event logs of
  real concurrent runs through `step` (correspondence check, `conc` operations).
-/
namespace Modbus.Properties.C14
open Modbus.Model.ClientLock Modbus.Lemmas.ClientLock

variable (nch : Nat → Nat) (progs : Nat → List Call) (connected : Bool) (sched : List Nat)

theorem reachable_inv : Inv nch progs (run nch (init progs connected) sched) :=
  inv_run nch progs _ sched (inv_init nch progs connected)

/-- at most one thread is inside a call at any time, and it holds the mutex -/
theorem mutual_exclusion (t u : Nat)
    (ht : ((run nch (init progs connected) sched).th t).stage ≠ .out)
    (hu : ((run nch (init progs connected) sched).th u).stage ≠ .out) :
    t = u ∧ (run nch (init progs connected) sched).holder = some t := by
  have h := reachable_inv nch progs connected sched
  have h1 := (h.mutex t).1 ht
  have h2 := (h.mutex u).1 hu
  rw [h1] at h2
  exact ⟨by cases h2; rfl, h1⟩

/-- request frames are never interleaved on the wire: the log is a run of the serial-exchange automaton -/
theorem wire_never_interleaved :
    ∃ st, wireRun none (run nch (init progs connected) sched).wire = some st ∧
      ((run nch (init progs connected) sched).holder = none → st = none) := by
  have h := reachable_inv nch progs connected sched
  refine ⟨_, h.wire, ?_⟩
  intro hn
  simp [cur, hn]

/-- each caller receives the reply to its own request -/
theorem own_reply (t id id' : Nat)
    (hx : (Call.doReq id, Outcome.reply id') ∈ ((run nch (init progs connected) sched).th t).done) : id' = id :=
  (reachable_inv nch progs connected sched).done t _ hx

/-- every call is carried out exactly once, in program order, with an outcome that fits it -/
theorem once_in_order (t : Nat) :
    ((run nch (init progs connected) sched).th t).done.map (·.1) ++ ((run nch (init progs connected) sched).th t).todo = progs t ∧
    ∀ x ∈ ((run nch (init progs connected) sched).th t).done, Matches x :=
  ⟨(reachable_inv nch progs connected sched).prog t, (reachable_inv nch progs connected sched).done t⟩

/-- no deadlock: as long as some thread has a call left or is inside one, some thread can take a step that changes
the state -/
theorem no_deadlock (s : St) (h : Inv nch progs s) (t : Nat)
    (hwork : (s.th t).todo ≠ [] ∨ (s.th t).stage ≠ .out) : ∃ u, step nch s u ≠ s := by
  cases hh : s.holder with
  | some u => exact ⟨u, (step_spec h u).2 (.inl ((h.mutex u).2 hh))⟩
  | none =>
    refine ⟨t, (step_spec h t).2 (.inr ⟨hh, hwork.resolve_right fun hst => ?_⟩)⟩
    simpa [hh] using (h.mutex t).1 hst

/-! ### the statement is about the mutex -/

/-- the same steps without the acquire test (what `Do` without `c.mu.Lock()` would be) -/
def stepUnlocked (nch : Nat → Nat) (s : St) (t : Nat) : St :=
  match (s.th t).stage with
  | .out => step nch { s with holder := none } t
  | _ => step nch s t

/-- without the mutex there is a schedule (two threads, one request each) in which thread 0 is handed the reply
to thread 1's request -/
theorem unlocked_interleaves :
    ∃ sched : List Nat,
      (Call.doReq 1, Outcome.reply 2) ∈
        ((sched.foldl (stepUnlocked (fun _ => 0)) (init (fun t => if t = 0 then [.doReq 1] else if t = 1 then [.doReq 2] else []) true)).th 0).done := by
  refine ⟨[1, 0, 1, 0, 0], ?_⟩
  decide

/-- non-vacuity: a concrete interleaved schedule of three threads (requests in 1-3 chunks, a close and a reconnect)
in which every call completes -/
example :
    let progs : Nat → List Call := fun t =>
      if t = 0 then [.doReq 1, .close] else if t = 1 then [.doReq 2, .connect, .doReq 5] else if t = 2 then [.doReq 3] else []
    let s := run (fun id => id % 3) (init progs true) ((List.replicate 16 [0, 1, 2, 2, 1]).flatten)
    (s.th 0).todo = [] ∧ (s.th 1).todo = [] ∧ (s.th 2).todo = [] ∧ s.holder = none ∧ s.wire.length ≥ 8 := by
  decide +kernel

end Modbus.Properties.C14
